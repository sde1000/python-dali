import DaliVerif.Proofs.MemSeq
import DaliVerif.Proofs.MemSeqStall
import DaliVerif.Gen.MemSeqTables
/-!
# C10 — memory writes store exactly the data or fail loudly; never silently

`MemoryValue.write_raw` (model `writeRaw` in `Model/MemSeq.lean`) against the
specification memory unit (`Spec/MemUnit.lean`) and, for the fault clause,
against any responder.  Quantified over every location list, every byte
string, every image / lock byte / register content, gear and device; no bounds.
-/
namespace DaliVerif.Props.C10
open DaliVerif DaliVerif.DevMem DaliVerif.DevMem.Prog

/-- **Refused before anything is sent.**  A value with a location that is not of a
writable type (with a permitted length) gives `MemoryValueNotWriteable`, a wrong
length `ValueError`; in both cases against any responder the exchange is empty. -/
theorem write_refused_early (arg : AddrArg) (bank : Nat) (locs : List (Nat × MemType)) (raw : List Nat)
    (s f i : Bool) (dev : Bool) (a : Nat) (hres : resolveAddr arg = .ok (dev, a))
    (tr : List (Cmd × Resp)) (out : PyRes Unit) (h : Out (writeRaw arg bank locs raw s f i) tr out) :
    ((if s then raw.length > locs.length else raw.length ≠ locs.length) →
      tr = [] ∧ out = .error .ValueError) ∧
    ((if s then raw.length ≤ locs.length else raw.length = locs.length) →
      (∃ l ∈ locs, l.2.writeable = false) → tr = [] ∧ out = .error .MemoryValueNotWriteable) :=
  ⟨fun hlen => writeRaw_refused arg bank locs raw s f i _ dev a hres
      (writeChecks_length locs raw.length s f hlen) tr out h,
   fun hlen hro => writeRaw_refused arg bank locs raw s f i _ dev a hres
      (writeChecks_readonly locs raw.length s f hlen hro) tr out h⟩

/-- **The write loop** against a conforming write-enabled unit (key lemma, DTR0
tracking invariant as in C09): if every target cell can be written the loop
completes with the memory holding the bytes and DTR0 where the code tracks it;
otherwise `MemoryLocationNotWriteable`. -/
theorem writeLoop_spec (dev : Bool) (pairs : List (Nat × Nat)) (u : MemUnit) (d : Option Nat)
    (hdev : u.dev = dev) (hadv : u.advance = true) (hwe : u.we = true) (hb : u.dtr1 = u.bank.number)
    (hlocs : ∀ p ∈ pairs, p.1 ≤ 255) (hnl : ∀ p ∈ pairs, u.bank.isLockCell p.1 = false)
    (hd : ∀ x, d = some x → u.dtr0 = x) :
    ((∀ p ∈ pairs, u.bank.canWrite u.unlockValue p.1 = true) →
      ∃ c, (writeLoop dev false pairs d).run MemUnit.step u =
        (.ok (finalD pairs d),
          { u with clock := c, dtr0 := finalDtr0 pairs u.dtr0,
                   bank := { u.bank with rw := writeAll pairs u.bank.rw } })) ∧
    (¬ (∀ p ∈ pairs, u.bank.canWrite u.unlockValue p.1 = true) →
      ((writeLoop dev false pairs d).run MemUnit.step u).1 = .error .MemoryLocationNotWriteable) :=
  writeLoop_run dev pairs u d hdev hadv hwe hb hlocs hnl hd

/-- **A successful write stored exactly the data** (no unlocking needed): for a
conforming unit implementing the bank, any stale registers / write-enable
state, if every target cell can be written the run returns normally and
afterwards the writable memory is the old one overwritten with the bytes at
the locations (`writeAll`: nothing else changed), lock byte, latch and
environment untouched. -/
theorem write_ok_spec (u : MemUnit) (dev : Bool) (a bank : Nat) (locs : List (Nat × MemType)) (raw : List Nat)
    (allowShort : Bool) (hl : u.Listens dev a) (hadv : u.advance = true) (hb : u.bank.number = bank)
    (hchk : writeChecks locs raw.length allowShort false = .ok false)
    (hne : (locs.map (·.1)).zip raw ≠ [])
    (hlocs : ∀ p ∈ (locs.map (·.1)).zip raw, p.1 ≤ 255)
    (hnl : ∀ p ∈ (locs.map (·.1)).zip raw, u.bank.isLockCell p.1 = false)
    (hcw : ∀ p ∈ (locs.map (·.1)).zip raw, u.bank.canWrite u.unlockValue p.1 = true) :
    ∃ c, (writeRaw (if dev then .devShort a else .gearShort a) bank locs raw allowShort false false).run
        MemUnit.step u =
      (.ok (), { u with clock := c, dtr0 := finalDtr0 ((locs.map (·.1)).zip raw) u.dtr0, dtr1 := bank, we := true,
                        bank := { u.bank with rw := writeAll ((locs.map (·.1)).zip raw) u.bank.rw } }) :=
by
  obtain ⟨c, hrun⟩ := (mainP_run false _ { u with dtr1 := bank, we := true, clock := u.clock + 1 + 1 }
    none hl hadv rfl hb.symm hlocs hnl nofun fun _ => hne).1 hcw
  rw [writeRaw_checked (resolve_short dev a) hchk, run_send, MemUnit.step_dtr1 u dev bank hl.1, run_send,
    MemUnit.step_enable { u with dtr1 := bank, clock := u.clock + 1 } dev a hl, if_neg Bool.false_ne_true]
  exact ⟨c, hrun⟩

/-- **… and a lockable bank is locked again**: with unlocking (NVM-RW-L locations
or `force_unlock`) on a bank that has a lock byte: unlock (0x55), write,
verify DTR0, lock (0xFF).  Afterwards: exactly the data, lock byte 0xFF, not
latched, whatever the lock byte was before. -/
theorem write_ok_spec_unlock (u : MemUnit) (dev : Bool) (a bank : Nat) (locs : List (Nat × MemType))
    (raw : List Nat) (allowShort forceUnlock : Bool)
    (hl : u.Listens dev a) (hadv : u.advance = true) (hb : u.bank.number = bank)
    (hlock : u.bank.hasLock = true) (h2 : 2 ≤ u.bank.last)
    (hchk : writeChecks locs raw.length allowShort forceUnlock = .ok true)
    (hlocs : ∀ p ∈ (locs.map (·.1)).zip raw, p.1 ≤ 255)
    (hnl : ∀ p ∈ (locs.map (·.1)).zip raw, u.bank.isLockCell p.1 = false)
    (hcw : ∀ p ∈ (locs.map (·.1)).zip raw, u.bank.unlocked.canWrite u.unlockValue p.1 = true) :
    ∃ c, (writeRaw (if dev then .devShort a else .gearShort a) bank locs raw allowShort forceUnlock false).run
        MemUnit.step u =
      (.ok (), { u with clock := c, dtr0 := 3, dtr1 := bank, we := true,
                        bank := { u.bank with rw := writeAll ((locs.map (·.1)).zip raw) u.bank.rw,
                                              lockByte := 0xFF, snap := none } }) := by
  have hlc := u.bank.isLockCell_two (.inl hlock)
  have hcw2 : ∀ b : Bank, b.isLockCell 2 = true → b.last = u.bank.last → ∀ unl, b.canWrite unl 2 = true :=
    fun b h1 h3 unl => by rw [Bank.canWrite_lockCell b unl h1, h3]; exact decide_eq_true h2
  obtain ⟨c, hrun⟩ := (mainP_run true _
    { u with dtr1 := bank, we := true, clock := u.clock + 1 + 1 + 2, dtr0 := 3, bank := u.bank.unlocked }
    (some 3) hl hadv rfl hb.symm hlocs hnl (fun x hx => Option.some.inj hx) nofun).1 hcw
  refine ⟨c + 2, ?_⟩
  rw [writeRaw_checked (resolve_short dev a) hchk, run_send, MemUnit.step_dtr1 u dev bank hl.1, run_send,
    MemUnit.step_enable { u with dtr1 := bank, clock := u.clock + 1 } dev a hl, if_pos rfl,
    run_lockWrite { u with dtr1 := bank, we := true, clock := u.clock + 1 + 1 } hl.1 hadv rfl hb.symm,
    if_pos (hcw2 _ hlc rfl _), Bank.store_lock _ _ hlc (by decide)]
  refine hrun.trans ?_
  rw [relockP, if_pos rfl, run_lockWrite, if_pos, Bank.store_lock]
  · rfl
  · exact hlc
  · decide
  · exact hcw2 _ (by exact hlc) (by rfl) _
  · exact hl.1
  · exact hadv
  · rfl
  · exact hb.symm

/-- what `writeAll` means: with distinct locations, each location holds its byte
and every other cell is unchanged -/
theorem writeAll_spec (pairs : List (Nat × Nat)) (m : Nat → Nat) :
    (∀ x, (∀ p ∈ pairs, p.1 ≠ x) → writeAll pairs m x = m x) ∧
    ((pairs.map (·.1)).Nodup → ∀ p ∈ pairs, writeAll pairs m p.1 = p.2) := by
  induction pairs generalizing m with
  | nil => exact ⟨fun _ _ => rfl, fun _ _ hp => nomatch hp⟩
  | cons q qs ih =>
    simp only [List.forall_mem_cons, List.map_cons, List.nodup_cons, List.mem_map, writeAll]
    refine ⟨fun x hx => ((ih _).1 x hx.2).trans (if_neg (Ne.symm hx.1)), fun hnd => ⟨?_, (ih _).2 hnd.2⟩⟩
    -- the later writes go elsewhere
    rw [(ih _).1 q.1 fun r hr heq => hnd.1 ⟨r, hr, heq⟩]
    exact if_pos rfl

/-- **A cell that cannot be written makes the write fail loudly** (shorter bank,
unimplemented cell, cell read-only in the unit, bank still locked / unit that
unlocks with another value): `MemoryLocationNotWriteable`, never success. -/
theorem write_not_writable (u : MemUnit) (dev : Bool) (a bank : Nat) (locs : List (Nat × MemType))
    (raw : List Nat) (allowShort : Bool)
    (hl : u.Listens dev a) (hadv : u.advance = true) (hb : u.bank.number = bank)
    (hchk : writeChecks locs raw.length allowShort false = .ok false)
    (hlocs : ∀ p ∈ (locs.map (·.1)).zip raw, p.1 ≤ 255)
    (hnl : ∀ p ∈ (locs.map (·.1)).zip raw, u.bank.isLockCell p.1 = false)
    (hcw : ¬ ∀ p ∈ (locs.map (·.1)).zip raw, u.bank.canWrite u.unlockValue p.1 = true) :
    ((writeRaw (if dev then .devShort a else .gearShort a) bank locs raw allowShort false false).run
        MemUnit.step u).1 = .error .MemoryLocationNotWriteable :=
by
  rw [writeRaw_checked (resolve_short dev a) hchk, run_send, MemUnit.step_dtr1 u dev bank hl.1, run_send,
    MemUnit.step_enable { u with dtr1 := bank, clock := u.clock + 1 } dev a hl, if_neg Bool.false_ne_true]
  have hne : (locs.map (·.1)).zip raw ≠ [] := fun hp => hcw (by rw [hp]; exact fun _ h => nomatch h)
  exact (mainP_run false _ { u with dtr1 := bank, we := true, clock := u.clock + 1 + 1 } none hl hadv rfl
    hb.symm hlocs hnl nofun fun _ => hne).2 hcw

/-- **Faults are loud** — against *any* responder (NO, another byte echoed, framing
error, wrong DTR0 read-back, at any step), feedback not ignored: a normal return
implies that every WRITE MEMORY LOCATION was echoed with exactly its own value
and that DTR0 was read back cleanly; every other outcome is one of the
documented exceptions.  A failed write is never reported as success. -/
theorem write_fault_loud (arg : AddrArg) (bank : Nat) (locs : List (Nat × MemType)) (raw : List Nat)
    (s f : Bool) (tr : List (Cmd × Resp)) (out : PyRes Unit)
    (h : Out (writeRaw arg bank locs raw s f false) tr out) :
    (out = .ok () ∧ (∀ cr ∈ tr, ∀ d v, cr.1 = Cmd.writeMemoryLocation d v → cr.2 = Resp.byte v) ∧
      ∃ dev a b, (Cmd.queryContentDTR0 dev a, Resp.byte b) ∈ tr) ∨
    (∃ e, out = .error e ∧ (e = .TypeError ∨ e = .ValueError ∨ e = .MemoryValueNotWriteable ∨
      e = .MemoryLocationNotWriteable ∨ e = .ResponseError ∨ e = .MemoryWriteFailure)) :=
by
  cases hres : resolveAddr arg with
  | error e =>
    unfold writeRaw at h
    rw [hres] at h
    exact .inr ⟨e, ((out_fail _ _ _).mp h).2, (resolveAddr_error _ _ hres).imp_right .inl⟩
  | ok da =>
    obtain ⟨dev, a⟩ := da
    cases hchk : writeChecks locs raw.length s f with
    | error e =>
      exact .inr ⟨e, (writeRaw_refused arg bank locs raw s f false e dev a hres hchk tr out h).2,
        .inr ((writeChecks_error _ _ _ _ _ hchk).imp_right .inl)⟩
    | ok unlock =>
      rw [writeRaw_checked hres hchk] at h
      refine WriteVerdict.send (by nofun) h fun _ _ h1 => .send (by nofun) h1 fun _ _ h2 => ?_
      cases unlock
      · exact mainP_faults _ _ _ _ _ _ _ h2
      · exact .send (by nofun) h2 fun _ _ h3 => .send (by nofun) h3 fun _ _ h4 => mainP_faults _ _ _ _ _ _ _ h4

/-- **A unit that does not advance its DTR0** — on ONE write only (any one), on
every data write but not on the lock-byte writes, on every frame (the unit that
never advances): `MemUnit.stepSched sched` is the specification unit that on the
frames selected by `sched` does everything as usual except advancing DTR0.  For
ANY schedule, any unit (lock byte, unlock value, bank number, cells, stale
registers arbitrary) and any value with consecutive locations that is not the
lock byte itself, feedback checked: if `write_raw` returns normally, the unit's
memory afterwards is the old one overwritten with exactly the bytes at exactly
the locations.  So a write that went wrong because DTR0 stalled (bytes landing
one location low) is never reported as success.  (`hlock`: when the bank is
unlocked / re-locked, location 2 is its lock byte.) -/
theorem write_stall_loud (sched : Nat → Bool) (i0 : Nat) (u : MemUnit) (dev : Bool) (a bank l : Nat)
    (locs : List (Nat × MemType)) (raw : List Nat) (allowShort forceUnlock unlock : Bool)
    (hdev : u.dev = dev)
    (hchk : writeChecks locs raw.length allowShort forceUnlock = .ok unlock)
    (hlock : unlock = true → u.bank.isLockCell 2 = true)
    (hcont : locs.map (·.1) = List.range' l locs.length) (h255 : l + locs.length ≤ 255)
    (hnl : ∀ x ∈ locs, u.bank.isLockCell x.1 = false)
    (h : ((writeRaw (if dev then .devShort a else .gearShort a) bank locs raw allowShort forceUnlock false).run
        (MemUnit.stepSched sched) (u, i0)).1 = .ok ()) :
    ((writeRaw (if dev then .devShort a else .gearShort a) bank locs raw allowShort forceUnlock false).run
        (MemUnit.stepSched sched) (u, i0)).2.1.bank.rw = writeAll ((locs.map (·.1)).zip raw) u.bank.rw :=
by
  have hc : Contig l ((locs.map (·.1)).zip raw) := by rw [hcont]; exact contig_zip_range' raw l _
  have hlen : l + ((locs.map (·.1)).zip raw).length ≤ 255 := by
    rw [List.length_zip, List.length_map]; omega
  have hnl' : ∀ q ∈ (locs.map (·.1)).zip raw, u.bank.isLockCell q.1 = false := fun q hq => by
    obtain ⟨x, hx, hxe⟩ := List.mem_map.mp (List.of_mem_zip hq).1
    exact hxe ▸ hnl x hx
  rw [writeRaw_checked (resolve_short dev a) hchk] at h ⊢
  simp only [run_send, MemUnit.stepSched] at h ⊢
  obtain ⟨hk1, -, hrw1, -⟩ := stepStall_other u (sched i0) (.dtr1 dev bank) (.inl ⟨dev, bank, rfl⟩)
  generalize (u.stepStall (sched i0) (.dtr1 dev bank)).2 = u1 at *
  obtain ⟨hk2, -, hrw2, -⟩ := stepStall_other u1 (sched (i0 + 1)) (.enableWriteMemory dev a)
    (.inr (.inl ⟨dev, a, rfl⟩))
  generalize (u1.stepStall (sched (i0 + 1)) (.enableWriteMemory dev a)).2 = u2 at *
  have hk := hk1.trans hk2
  cases unlock with
  | false =>
    exact (mainP_stall sched a false u2 _ none hdev nofun hc hlen hnl' hk nofun h).trans (by rw [hrw2, hrw1])
  | true =>
    simp only [if_true, run_send, MemUnit.stepSched, stepStall_dtr0 u2 _ dev 2 (hk.1.trans hdev)] at h ⊢
    obtain ⟨hk3, hd3, hrw3, -⟩ := stepStall_writeNR { u2 with dtr0 := 2, clock := u2.clock + 1 }
      (sched (i0 + 1 + 1 + 1)) (hk.1.trans hdev) 0x55
    generalize (({ u2 with dtr0 := 2, clock := u2.clock + 1 } : MemUnit).stepStall (sched (i0 + 1 + 1 + 1))
      (.writeMemoryLocationNoReply dev 0x55)).2 = u3 at *
    exact (mainP_stall sched a true u3 _ (some 3) hdev hlock hc hlen hnl' (hk.trans hk3)
      (fun h3 => by cases h3; exact hd3) h).trans
        (by rw [hrw3 ((congrFun hk.2 2).trans (hlock rfl)), hrw2, hrw1])

/-- every declared value has consecutive locations ending at or below 254, which is
what `write_stall_loud` asks for -/
theorem tables_consecutive :
    DaliVerif.Gen.MemSeqTables.values.all (fun v =>
      v.addrs == List.range' (v.addrs.headD 0) v.addrs.length &&
      decide (v.addrs.headD 0 + v.addrs.length ≤ 255)) = true := by decide +kernel

/-- the regenerated tables satisfy what the theorems ask of a value: locations
fit a byte and are pairwise distinct; 27 values are writable -/
theorem tables_ok :
    DaliVerif.Gen.MemSeqTables.values.all (fun v =>
      v.locs.all (fun l => decide (l.1 ≤ 254)) && decide (v.addrs.Nodup)) = true ∧
    (DaliVerif.Gen.MemSeqTables.values.filter (fun v => v.locs.all (·.2.writeable))).length = 27 := by
  refine ⟨List.all_eq_true.mpr fun v hv => ?_, by decide +kernel⟩
  have hfit : DaliVerif.Gen.MemSeqTables.values.all (fun v => v.locs.all fun l => decide (l.1 ≤ 254)) = true := by
    decide +kernel
  -- consecutive locations are distinct
  have hc := List.all_eq_true.mp tables_consecutive v hv
  rw [Bool.and_eq_true, beq_iff_eq] at hc
  rw [Bool.and_eq_true, decide_eq_true_eq, hc.1]
  exact ⟨List.all_eq_true.mp hfit v hv, List.nodup_range'⟩

/-! non-vacuity of `write_stall_loud`: a lockable bank-1 style unit; without a stall the
write succeeds, with DTR0 stalled on the first data write (frame 4) the second byte
lands on location 3 and the write raises `MemoryWriteFailure` -/
private def exUnit : MemUnit :=
  { dev := false, addr := 5, clock := 0, dtr0 := 9, dtr1 := 7, dtr2 := 0, we := false,
    bank := { number := 1, last := 20, impl := fun _ => true, access := fun _ => .rwLock,
              live := fun _ _ => 0, rw := fun a => 100 + a, hasLock := true, hasLatch := false,
              lockByte := 0xFF, snap := none },
    advance := true, unlockValue := 0x55 }

private def exLocs : List (Nat × MemType) := [(3, .NVM_RW_L), (4, .NVM_RW_L), (5, .NVM_RW_L)]

example : ((writeRaw (.gearShort 5) 1 exLocs [11, 22, 33] false false false).run
    (MemUnit.stepSched fun _ => false) (exUnit, 0)).1 = .ok () := by decide

example : ((writeRaw (.gearShort 5) 1 exLocs [11, 22, 33] false false false).run
    (MemUnit.stepSched fun k => k == 4) (exUnit, 0)).1 = .error .MemoryWriteFailure := by decide

example : ((writeRaw (.gearShort 5) 1 exLocs [11, 22, 33] false false false).run
    (MemUnit.stepSched fun k => k == 4) (exUnit, 0)).2.1.bank.rw 3 = 22 := by decide

end DaliVerif.Props.C10
