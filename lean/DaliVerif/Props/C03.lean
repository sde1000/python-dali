import DaliVerif.Proofs.Construct
import DaliVerif.Spec.IEC62386
import DaliVerif.Gen.Commands
import DaliVerif.Props.C02
/-!
# C03 — emitted frames and command flags conform to the IEC 62386 tables
-/
set_option linter.unusedSimpArgs false
namespace DaliVerif.Props.C03
open DaliVerif Cmd Spec

/-- kind of answer as the standard's tables distinguish it: none / yes-no / 8-bit value -/
def answerClass (k : String) : String := if k = "" then "" else if k = "yesno" then "yesno" else "value"

/-- what the standard's tables say about one command -/
structure TableRow where
  qualname : String
  framesize : Nat
  family : String
  code : Nat
  addrByte : Nat
  instByte : Nat
  hasparam : Bool
  dt : Nat
  sendtwice : Bool
  answer : String
  deriving DecidableEq, Repr

def projGen (r : ClassRow) : TableRow :=
  ⟨r.qualname, r.framesize, r.family, r.code, r.addrByte, r.instByte, r.hasparam, r.dt, r.sendtwice,
   answerClass r.responseKind⟩

def projSpec (r : SpecRow) : TableRow :=
  ⟨r.qualname, r.framesize, r.family, r.code, r.addrByte, r.instByte, r.hasparam, r.dt, r.sendtwice,
   r.answer⟩

def genRows : List TableRow := Gen.classRows.map projGen
def specRows : List TableRow := Spec.commandRows.map projSpec

/-- walk the library's rows against the standard's rows (both in name order):
equal rows are paired off, a library row that is not the next standard row is
set aside; `none` if a standard row finds no equal library row -/
def pairOff : List TableRow → List TableRow → Option (List TableRow)
  | gs, [] => some gs
  | [], _ :: _ => none
  | g :: gs, s :: ss => if g = s then pairOff gs ss else (pairOff gs (s :: ss)).map (g :: ·)

theorem pairOff_sound : ∀ (gs ss o : List TableRow), pairOff gs ss = some o →
    (∀ r ∈ ss, r ∈ gs) ∧ (∀ x ∈ gs, x ∈ ss ∨ x ∈ o)
  | gs, [], o, h => by
      simp only [pairOff] at h
      injection h with h; subst h
      exact ⟨by simp, fun x hx => Or.inr hx⟩
  | [], _ :: _, o, h => by simp [pairOff] at h
  | g :: gs, s :: ss, o, h => by
      simp only [pairOff] at h
      by_cases e : g = s
      · simp only [e, if_true] at h
        have ih := pairOff_sound gs ss o h
        subst e
        refine ⟨fun r hr => ?_, fun x hx => ?_⟩
        · rcases List.mem_cons.mp hr with rfl | hr
          · exact List.mem_cons_self
          · exact List.mem_cons_of_mem _ (ih.1 r hr)
        · rcases List.mem_cons.mp hx with rfl | hx
          · exact Or.inl List.mem_cons_self
          · rcases ih.2 x hx with h' | h'
            · exact Or.inl (List.mem_cons_of_mem _ h')
            · exact Or.inr h'
      · simp only [e, if_false] at h
        cases hp : pairOff gs (s :: ss) with
        | none => simp [hp] at h
        | some o' =>
          simp only [hp, Option.map] at h
          injection h with h; subst h
          have ih := pairOff_sound gs (s :: ss) o' hp
          refine ⟨fun r hr => List.mem_cons_of_mem _ (ih.1 r hr), fun x hx => ?_⟩
          rcases List.mem_cons.mp hx with rfl | hx
          · exact Or.inr List.mem_cons_self
          · rcases ih.2 x hx with h' | h'
            · exact Or.inl h'
            · exact Or.inr (List.mem_cons_of_mem _ h')

/-- the library's classes that the transcribed tables do not name -/
def outsideTables : List TableRow := (pairOff genRows specRows).getD []

/-- C03, the command tables — for every concrete command class of the current tree that the standard's tables
name: opcode / address byte / instance byte, the parameter nibble flag, the frame format, the send-twice flag,
whether an answer is expected and whether it is yes/no or an 8-bit value, and the device type to be enabled first
all equal the transcribed rows of IEC 62386 parts 102, 103, 202, 205, 206, 207, 209, 301, 303, 304 — and no row
of the standard's tables is missing from the library.  (A class the transcribed tables do not name cannot be
judged by them; the check lists such classes, `outsideTables`, in its evidence.) -/
theorem table_conforms :
    (∀ r ∈ specRows, r ∈ genRows) ∧
    (∀ g ∈ genRows, (∃ r ∈ specRows, r.qualname = g.qualname) → g ∈ specRows) := by
  -- one walk over the two tables: it pairs every standard row off, and no row it sets aside bears a standard name
  have h : (match pairOff genRows specRows with
      | some o => o.all (fun g => !(specRows.any (fun r => r.qualname == g.qualname)))
      | none => false) = true := by decide +kernel
  cases ho : pairOff genRows specRows with
  | none => simp [ho] at h
  | some o =>
    simp only [ho, List.all_eq_true, Bool.not_eq_true', List.any_eq_false, beq_iff_eq] at h
    have hs := pairOff_sound _ _ o ho
    exact ⟨hs.1, fun g hg ⟨r, hr, hn⟩ => (hs.2 g hg).resolve_right fun ho => h g ho r hr hn⟩

/-- is a class row registered in the decode registry under the key the standard's opcode implies? -/
def rowRegistered (T : Tables) (r : ClassRow) : Bool :=
  if r.family = "std" then
    (List.range (if r.hasparam then 16 else 1)).all fun p =>
      (lookup T.stdOpcodes (r.dt, r.code + p)).any fun c =>
        c.name == r.qualname && c.cmdval == r.code && c.hasparam == r.hasparam && c.dt == r.dt
  else if r.family = "special" ∨ r.family = "shortSpecial" ∨ r.family = "initialise" then
    (lookup T.specialOpcodes r.code).any fun c =>
      c.name == r.qualname && c.cmdval == r.code && c.hasparam == r.hasparam
  else if r.family = "devStd" then
    (lookup T.devOpcodes r.code).any fun c => c.name == r.qualname && c.opcode == r.code
  else if r.family = "devInst" then
    (lookup T.instOpcodes r.code).any fun c => c.name == r.qualname && c.opcode == r.code
  else if r.family = "devSpecial0" ∨ r.family = "devSpecial1" ∨ r.family = "devSpecial2" then
    T.devCommands.any fun e =>
      match e with
      | .special c => c.name == r.qualname && c.addr == r.addrByte &&
          (r.family == "devSpecial2" || c.inst == r.instByte)
      | _ => false
  else true

/-- rows and registries agree: every class row is found by decoding under exactly the opcode its row states (so a
frame built from the standard's table decodes to the command of that name, via `frame_is_standard`) -/
theorem rows_registered : Gen.classRows.all (rowRegistered Gen.tables) = true := by
  decide +kernel

/-- C03, the frame on the wire is the standard's frame — for every legal object of every class: the constructor's
frame is the layout the standard assigns (`frameOf`: `YAAAAAAS`/`100GGGGS`/`1111111S`/`1111110S` address byte
with selector bit then opcode|parameter or level; special command byte then data; 24-bit address byte with
bit 16 = 1, instance byte, opcode; the special device triples; event scheme bits, five-bit fields and ten
information bits), and conversely that frame decodes to the same command. -/
theorem frame_is_standard (T : Tables) (hT : TableOK2 T) (c : Cmd) (h : WF T c) :
    encode c = .ok ⟨bitsOf c, frameOf c⟩ ∧
    decode T (bitsOf c) (frameOf c) (dtOf c) (mapFor c) = c :=
  frame_standard T hT c h

theorem frame_is_standard_gen (c : Cmd) (h : WF Gen.tables c) :
    encode c = .ok ⟨bitsOf c, frameOf c⟩ ∧
    decode Gen.tables (bitsOf c) (frameOf c) (dtOf c) (mapFor c) = c :=
  frame_standard Gen.tables C02.tables_ok2 c h

/-- application-extended commands carry their device type: every transcribed row of parts 202/205/206/207/209 has
device type `part − 201` (part 202 is device type 1, …, part 209 device type 8), every other row has device
type 0; by `table_conforms` the same holds of the library -/
theorem extended_commands_carry_devicetype :
    Spec.commandRows.all (fun r =>
      if r.part = 202 ∨ r.part = 205 ∨ r.part = 206 ∨ r.part = 207 ∨ r.part = 209
      then r.dt == r.part - 201 && r.dt != 0 else r.dt == 0) = true := by
  decide +kernel

/-- the address byte field of each address kind is the standard's pattern -/
theorem address_patterns :
    (∀ s, Addr.addrByte (.gearShort s) = s) ∧ (∀ g, Addr.addrByte (.gearGroup g) = 0b1000000 + g) ∧
    Addr.addrByte .gearBroadcast = 0b1111111 ∧ Addr.addrByte .gearUnaddressed = 0b1111110 ∧
    (∀ s, Addr.addrByte (.deviceShort s) = s) ∧ (∀ g, Addr.addrByte (.deviceGroup g) = 0b1000000 + g) ∧
    Addr.addrByte .deviceBroadcast = 0b1111111 ∧ Addr.addrByte .deviceUnaddressed = 0b1111110 := by
  refine ⟨fun _ => rfl, fun _ => rfl, rfl, rfl, fun _ => rfl, fun _ => rfl, rfl, rfl⟩

/-! ### non-vacuity -/
example : frameOf (.standard ⟨"gear.general.GoToScene", 16, true, 0, true⟩ (.gearGroup 3) 7) = 0x8717 := by
  decide
example : frameOf (.devSpecial ⟨"device.general.DTR2DTR1", 201, 999, .two⟩ 0x12 0x34) = 0xC91234 := by
  decide

end DaliVerif.Props.C03
