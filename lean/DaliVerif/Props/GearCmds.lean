import DaliVerif.Spec.GearBus
import DaliVerif.Gen.GearSeqEnums
/-!
# The command classes the gear sequences use, as the working tree declares them (shared by C07 / C08 / C14)

`Gen.GearSeqEnums.cmdSamples` is regenerated from the library on every run (class name, frame of a canonical
instance, device type, `sendtwice` flag, response class).  The model's commands carry the same names, frames and device types,
and the standard's send-twice requirement (`Cmd.twiceRequired`, IEC 62386-102 9.3 / part 209) is what the
classes are flagged with - so a driver that transmits twice exactly what is flagged makes every unit hear every
command of these sequences, and the bus "as driven" (`Bus.execFlagged`) is the bus of the proofs (`Bus.exec`).
-/
namespace DaliVerif.Props.GearCmds
open DaliVerif DaliVerif.GearSeq

def sampleCmds : List Cmd :=
  let s0 := Addr.short 0
  [.dtr0 0, .dtr1 0, .dtr2 0, .enableDT 0, .terminate, .initialise 0, .randomise, .compare, .withdraw,
   .searchH 0, .searchM 0, .searchL 0, .programShort 0, .verifyShort 0, .setShortAddress s0,
   .queryGearPresent s0, .queryDeviceType s0, .queryNextDeviceType s0, .queryGroups07 s0, .queryGroups815 s0,
   .addToGroup s0 0, .removeFromGroup s0 0, .queryActualLevel s0, .queryContentDTR0 s0,
   .setTempTc s0, .activate s0, .storeTcLimit s0, .queryColourValue s0]

/-- the frames, class names and device types the model gives its commands are those the
working tree's command classes carry (regenerated on every run) -/
theorem cmd_frames_gen :
    sampleCmds.map (fun c => (c.cls, c.frame, c.devicetype)) =
      Gen.GearSeqEnums.cmdSamples.map (fun r => (r.1, r.2.1, r.2.2.1)) := rfl

/-- the `sendtwice` flag of every command class the gear sequences use is what the standard requires
(`Cmd.twiceRequired`: INITIALISE, RANDOMISE, the configuration instructions, STORE Tc LIMIT are acted on only
when received twice) - regenerated on every run … -/
theorem cmd_sendtwice_gen :
    sampleCmds.map (fun c => (c.cls, c.twiceRequired)) =
      Gen.GearSeqEnums.cmdSamples.map (fun r => (r.1, r.2.2.2.1)) := rfl

/-- … so a driver that transmits twice exactly the commands flagged `sendtwice` makes every unit hear every
command of these sequences: the bus "as driven" is the bus of the proofs -/
theorem execFlagged_eq_exec (b : Bus) (c : Cmd) : Bus.execFlagged b c c.twiceRequired = Bus.exec b c := by
  unfold Bus.execFlagged; cases c.twiceRequired <;> simp


end DaliVerif.Props.GearCmds
