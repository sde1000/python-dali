import DaliVerif.Proofs.SerialRxLuba
/-!
# C19 — serial receivers deframe any byte stream like the protocol's grammar

`SerialRx.Luba` / `SerialRx.Sci` are the models of the
receive state machines of `dali/driver/serial.py` (`Model/SerialRx.lean`, tied to
the code by the correspondence suite); `Spec.Deframe.lubaDeframe/sciDeframe` are
the reference deframers written over the whole stream.  Bytes are `Nat`s below
256; `o` is the decode oracle (every theorem holds for every oracle).
-/
namespace DaliVerif.Props.C19
open DaliVerif SerialRx Spec.Deframe Proofs.SerialRx
open Gen.DriverConsts

/-- the constants of the tree the model runs on are those the reference was written with -/
theorem luba_consts :
    luba_MAX_LEN - 4 = lubaMaxPayload ∧ luba_EVENT_TYPE_MASK = 0xC0 ∧ luba_EVENT_INFO_MASK = 0x3F ∧
    lubaCmd_EVENT_MESSAGE = 0x31 ∧ lubaCmd_ADD_DALI_FRAME_TO_TX_RSP = 0x33 ∧
    lubaCmd_QUERY_DEVICE_INFO_RSP = 0x21 ∧ lubaCmd_READ_WRITE_SETTINGS_RSP = 0x2B ∧
    (∀ c ∈ [0x31, 0x33, 0x21, 0x2B], Luba.knownCmd c = true) := by decide

theorem sci_consts :
    sci_MAX_LEN = 5 ∧ sci_STATUS_CODE_MASK = 0x0F ∧ sci_STATUS_ID_MASK = 0xF0 ∧
    sciCode = [("ERROR", 7), ("SEND_DALI2_24", 8), ("SEND_DALI_16", 3), ("SEND_DALI_17", 6), ("SEND_DALI_8", 2),
               ("SEND_DSI", 5), ("SEND_EDALI", 4), ("STATUS_DALI_NO", 1), ("STATUS_OK", 0)] ∧
    sciErrorType.map (·.2) = [1, 5, 2, 3, 4] := by decide

/-- **LUBA refinement, from any receiver state.**  If the receiver is in a state
`s` in which the bytes `acc` of a frame are in progress (`Rel`), then for every
continuation `bytes` such that `acc ++ bytes` contains no checksum-valid frame
with a payload malformed for its type, `data_received(bytes)` raises nothing and
delivers exactly what the reference deframer extracts from `acc ++ bytes`. -/
theorem luba_refines_from (o : Oracle) (s : Luba.State) (a : AState) (h : Rel s a) (bytes : List Nat)
    (hb : ∀ x ∈ a.acc ++ bytes, x < 256)
    (hwf : LubaWellFormed o ⟨a.rxdt, a.txdt⟩ (a.acc ++ bytes)) :
    (Luba.runChunk o s bytes).err = none ∧
    (Luba.runChunk o s bytes).items.map Out.item = lubaDeframe o ⟨a.rxdt, a.txdt⟩ (a.acc ++ bytes) :=
  run_deframe o bytes s a h hb hwf

/-- **luba_refines** (clause "deliver exactly the sequence of items that an
independent reference deframer extracts"; bad checksum, unknown type and a
length that cannot fit are dropped and reception resumes at the next frame
boundary — that is how `lubaDeframe` is written).  For every byte stream fed to a
fresh receiver. -/
theorem luba_refines (o : Oracle) (bytes : List Nat) (hb : ∀ x ∈ bytes, x < 256)
    (hwf : LubaWellFormed o ⟨0, 0⟩ bytes) :
    (Luba.runChunk o Luba.init bytes).err = none ∧
    (Luba.runChunk o Luba.init bytes).items.map Out.item = lubaDeframe o ⟨0, 0⟩ bytes :=
  luba_refines_from o Luba.init ⟨[], 0, 0⟩ rel_init bytes (by simpa using hb) (by simpa using hwf)

/-- **sci_refines**: the same for the SCI receiver (it has no malformed payloads: no side condition). -/
theorem sci_refines (o : Oracle) (bytes : List Nat) (hb : ∀ x ∈ bytes, x < 256) :
    (Sci.runChunk o Sci.init bytes).err = none ∧
    (Sci.runChunk o Sci.init bytes).items = sciDeframe o 0 bytes := by
  have h := sci_refines_aux o bytes.length bytes Sci.init (Nat.le_refl _) (by simp [sciIdle, Sci.init, sci_MAX_LEN]) hb
  exact ⟨h.2, h.1⟩

/-- **chunking_independent** (clause "the result does not depend on how the stream was
chunked"): receiving `a` and then `b` is receiving `a ++ b`, as long as `a` raised nothing. -/
theorem luba_chunking_independent (o : Oracle) (s : Luba.State) (a b : List Nat)
    (h : (Luba.runChunk o s a).err = none) :
    Luba.runChunk o s (a ++ b) =
      ⟨(Luba.runChunk o (Luba.runChunk o s a).state b).state,
       (Luba.runChunk o s a).items ++ (Luba.runChunk o (Luba.runChunk o s a).state b).items,
       (Luba.runChunk o (Luba.runChunk o s a).state b).err⟩ := by
  rw [luba_runChunk_append, h]

theorem sci_chunking_independent (o : Oracle) (s : Sci.State) (a b : List Nat)
    (h : (Sci.runChunk o s a).err = none) :
    Sci.runChunk o s (a ++ b) =
      ⟨(Sci.runChunk o (Sci.runChunk o s a).state b).state,
       (Sci.runChunk o s a).items ++ (Sci.runChunk o (Sci.runChunk o s a).state b).items,
       (Sci.runChunk o (Sci.runChunk o s a).state b).err⟩ := by
  rw [sci_runChunk_append, h]

/-- for **every way of splitting the stream into reads**: the sequence of `data_received`
calls delivers the reference deframer's items of the concatenation and raises nothing -/
theorem luba_chunked_refines (o : Oracle) (chunks : List (List Nat)) (hb : ∀ x ∈ chunks.flatten, x < 256)
    (hwf : LubaWellFormed o ⟨0, 0⟩ chunks.flatten) :
    (Luba.runChunks o Luba.init chunks).2.2 = [] ∧
    (Luba.runChunks o Luba.init chunks).2.1.map Out.item = lubaDeframe o ⟨0, 0⟩ chunks.flatten := by
  obtain ⟨h1, h2⟩ := luba_refines o chunks.flatten hb hwf
  rw [luba_runChunks_flatten o chunks Luba.init h1]
  exact ⟨rfl, h2⟩

theorem sci_chunked_refines (o : Oracle) (chunks : List (List Nat)) (hb : ∀ x ∈ chunks.flatten, x < 256) :
    (Sci.runChunks o Sci.init chunks).2.2 = [] ∧
    (Sci.runChunks o Sci.init chunks).2.1 = sciDeframe o 0 chunks.flatten := by
  obtain ⟨h1, h2⟩ := sci_refines o chunks.flatten hb
  rw [sci_runChunks_flatten o chunks Sci.init h1]
  exact ⟨rfl, h2⟩

/-- **no_internal_error** (clause "no input raises an internal error"): for *every* sequence of
reads — malformed payloads included, and continuing after a handler has raised — the only
exceptions that ever escape are those a handler raises deliberately for a checksum-valid
frame; the state machine's own bookkeeping (the fixed 24-entry buffer) never raises.
False of the code before the F11 repair (length bytes 21..23, see docs/C19.md). -/
theorem luba_no_internal_error (o : Oracle) (chunks : List (List Nat)) :
    ∀ e ∈ (Luba.runChunks o Luba.init chunks).2.2, ∃ x, e = RxErr.handler x :=
  (chunks_rel o chunks Luba.init ⟨[], 0, 0⟩ rel_init).2

/-- one byte never makes the state machine raise, in any state reachable with a frame in progress -/
theorem luba_step_no_internal (o : Oracle) (s : Luba.State) (a : AState) (b : Nat) (h : Rel s a) (e : PyErr) :
    (Luba.step o s b).err ≠ some (.internal e) := by
  intro he
  rw [(sim o s a b h).2.1] at he
  obtain ⟨x, hx⟩ := astep_err o a b _ he
  cases hx

/-- the SCI receiver never raises at all, whatever it is fed -/
theorem sci_never_raises (o : Oracle) (chunks : List (List Nat)) :
    (Sci.runChunks o Sci.init chunks).2.2 = [] :=
  sci_chunks_ok o chunks Sci.init (by simp [Sci.init, sci_MAX_LEN])

/-- **always_resyncs**, LUBA (clause "…or leaves the receiver unable to accept a following
well-formed frame"): whatever was received before, once the receiver is at a frame boundary
(`Rel s ⟨[], …⟩`: no frame in progress) everything that follows is deframed exactly as the
reference deframes it from scratch — in particular a following well-formed frame is delivered.
`luba_refines_from` covers the states with a frame in progress. -/
theorem luba_always_resyncs (o : Oracle) (s : Luba.State) (rx tx : Nat) (h : Rel s ⟨[], rx, tx⟩)
    (bytes : List Nat) (hb : ∀ x ∈ bytes, x < 256) (hwf : LubaWellFormed o ⟨rx, tx⟩ bytes) :
    (Luba.runChunk o s bytes).err = none ∧
    (Luba.runChunk o s bytes).items.map Out.item = lubaDeframe o ⟨rx, tx⟩ bytes :=
  luba_refines_from o s ⟨[], rx, tx⟩ h bytes (by simpa using hb) (by simpa using hwf)

/-- SCI: after any number of complete five-byte frames the receiver is at a frame boundary and
deframes what follows like the reference (`sciIdle` = waiting for a status byte). -/
theorem sci_always_resyncs (o : Oracle) (s : Sci.State) (h : sciIdle s) (bytes : List Nat)
    (hb : ∀ x ∈ bytes, x < 256) :
    (Sci.runChunk o s bytes).err = none ∧ (Sci.runChunk o s bytes).items = sciDeframe o s.rxdt bytes := by
  have := sci_refines_aux o bytes.length bytes s (Nat.le_refl _) h hb
  exact ⟨this.2, this.1⟩

/-- **resync_bound** (the explicit bound): from *every* receiver state with a frame in progress (`Rel s a`; every
state reachable by any sequence of reads is such a state, `luba_resync_bound_any_history`), `MAX_LEN - 1` = 23 bytes
other than 'Y' that raise no handler exception bring the receiver to a frame boundary (no frame in progress).
The bound is tight and "other than 'Y'" cannot be dropped (examples below): an arbitrary byte may be a 'Y' that opens
a new frame which swallows what follows. -/
theorem luba_resync_bound (o : Oracle) (s : Luba.State) (a : AState) (h : Rel s a) (idle : List Nat)
    (hid : ∀ x ∈ idle, x ≠ 0x59) (hlen : luba_MAX_LEN - 1 ≤ idle.length)
    (hne : (Luba.runChunk o s idle).err = none) :
    Rel (Luba.runChunk o s idle).state
      ⟨[], (Luba.runChunk o s idle).state.rxdt, (Luba.runChunk o s idle).state.txdt⟩ := by
  obtain ⟨a', hrel, hle⟩ := run_idle o idle s a h hid hne
  have h23 := remaining_le a.acc h.2.2.1
  have hl : 23 ≤ idle.length := by simpa [luba_MAX_LEN] using hlen
  have hz : a'.acc = [] := remaining_zero _ (by omega)
  obtain ⟨acc', rx', tx'⟩ := a'
  simp only at hz; subst hz
  have e1 : (Luba.runChunk o s idle).state.rxdt = rx' := hrel.1
  have e2 : (Luba.runChunk o s idle).state.txdt = tx' := hrel.2.1
  rw [e1, e2]; exact hrel

/-- … and a well-formed frame that follows (valid checksum, payload not malformed for its type) is delivered:
the items are those of the idle stretch followed by exactly the frame's meaning, and nothing is raised. -/
theorem luba_resync_delivers (o : Oracle) (s : Luba.State) (a : AState) (h : Rel s a) (idle : List Nat)
    (hid : ∀ x ∈ idle, x ≠ 0x59) (hlen : luba_MAX_LEN - 1 ≤ idle.length)
    (hne : (Luba.runChunk o s idle).err = none)
    (c n : Nat) (p : List Nat) (hn : 1 ≤ n ∧ n ≤ lubaMaxPayload) (hp : p.length = n)
    (hb : ∀ x ∈ c :: n :: p, x < 256)
    (hwf : Out.malformed ∉ (lubaMeaning o ⟨(Luba.runChunk o s idle).state.rxdt, (Luba.runChunk o s idle).state.txdt⟩ c p).2) :
    (Luba.runChunk o s (idle ++ 0x59 :: c :: n :: (p ++ [xorSum (c :: n :: p)]))).err = none ∧
    (Luba.runChunk o s (idle ++ 0x59 :: c :: n :: (p ++ [xorSum (c :: n :: p)]))).items.map Out.item =
      (Luba.runChunk o s idle).items.map Out.item ++
      (lubaMeaning o ⟨(Luba.runChunk o s idle).state.rxdt, (Luba.runChunk o s idle).state.txdt⟩ c p).2 := by
  have hrel := luba_resync_bound o s a h idle hid hlen hne
  have hdf := deframe_good_frame o ⟨(Luba.runChunk o s idle).state.rxdt, (Luba.runChunk o s idle).state.txdt⟩
    c n p [] hn hp
  rw [deframe_nil, List.append_nil] at hdf
  obtain ⟨r1, r2⟩ := luba_refines_from o _ _ hrel _ (frame_lt c n p hb) (by
    show Out.malformed ∉ lubaDeframe o _ _
    simp only [List.nil_append]; rw [hdf]; exact hwf)
  rw [luba_chunking_independent o s idle _ hne]
  simp only [List.nil_append] at r2
  exact ⟨r1, by simp only [List.map_append, r2, hdf]⟩

/-- the same after any history of reads from a fresh receiver, exceptions included -/
theorem luba_resync_bound_any_history (o : Oracle) (chunks : List (List Nat)) (idle : List Nat)
    (hid : ∀ x ∈ idle, x ≠ 0x59) (hlen : luba_MAX_LEN - 1 ≤ idle.length)
    (hne : (Luba.runChunk o (Luba.runChunks o Luba.init chunks).1 idle).err = none) :
    Rel (Luba.runChunk o (Luba.runChunks o Luba.init chunks).1 idle).state
      ⟨[], (Luba.runChunk o (Luba.runChunks o Luba.init chunks).1 idle).state.rxdt,
           (Luba.runChunk o (Luba.runChunks o Luba.init chunks).1 idle).state.txdt⟩ := by
  obtain ⟨⟨a, h⟩, _⟩ := chunks_rel o chunks Luba.init ⟨[], 0, 0⟩ rel_init
  exact luba_resync_bound o _ a h idle hid hlen hne

/-! ## no memory of delivered items: a frame received again is delivered again

The receivers are functions of the byte stream (`…_chunking_independent`: the items of `a ++ b` are the items of `a`
followed by the items of `b` from the state after `a`) and the state after a complete frame is a frame boundary that
remembers nothing of the frame but the device type (`rxdt`/`txdt`).  Hence a well-formed frame fed twice in a row
from a frame boundary yields its item twice.  (Seeded change C19-D — the SCI receiver suppressing a *repeated* error
report — contradicts `sci_error_report_repeated`.) -/

/-- **sci_repeat_delivered_twice**: a checksum-valid SCI message received twice in a row from a frame boundary delivers
its meaning twice (the second time under the device type the first one left). -/
theorem sci_repeat_delivered_twice (o : Oracle) (s : Sci.State) (h : sciIdle s) (st hi mi lo : Nat)
    (hst : st < 256) (hlo : lo < 256) :
    (Sci.runChunk o s ([st, hi, mi, lo, xorSum [st, hi, mi, lo]] ++ [st, hi, mi, lo, xorSum [st, hi, mi, lo]])).err
      = none ∧
    (Sci.runChunk o s ([st, hi, mi, lo, xorSum [st, hi, mi, lo]] ++ [st, hi, mi, lo, xorSum [st, hi, mi, lo]])).items =
      (sciFrameMeaning o s.rxdt st hi mi lo).2 ++
        (sciFrameMeaning o (sciFrameMeaning o s.rxdt st hi mi lo).1 st hi mi lo).2 := by
  have hidle : ∀ r, sciIdle ⟨.waitStatus, List.replicate 5 0, r⟩ := by intro r; simp [sciIdle]
  simp only [List.cons_append, List.nil_append]
  rw [sci_frame o s h st hi mi lo _ hst hlo, sci_frame o _ (hidle _) st hi mi lo _ hst hlo]
  simp [sciFrameOut, Sci.runChunk]

/-- **sci_error_report_repeated**: `k` identical error reports (status code 7, known error code 1..5) in a row, from
any frame boundary, deliver `k` device replies `(id, 7)` — one per report, however often the fault is reported. -/
theorem sci_error_report_repeated (o : Oracle) (st hi mi lo : Nat) (hst : st < 256) (hlo : 1 ≤ lo ∧ lo ≤ 5)
    (hcode : st % 16 = 7) (k : Nat) : ∀ (s : Sci.State), sciIdle s →
    (Sci.runChunk o s (List.replicate k [st, hi, mi, lo, xorSum [st, hi, mi, lo]]).flatten).err = none ∧
    (Sci.runChunk o s (List.replicate k [st, hi, mi, lo, xorSum [st, hi, mi, lo]]).flatten).items =
      List.replicate k (Item.sciinfo (st / 16) 7) := by
  induction k with
  | zero => intro s _; simp [Sci.runChunk]
  | succ k ih =>
    intro s h
    have hidle : ∀ r, sciIdle ⟨.waitStatus, List.replicate 5 0, r⟩ := by intro r; simp [sciIdle]
    simp only [List.replicate_succ, List.flatten_cons, List.cons_append, List.nil_append]
    rw [sci_frame o s h st hi mi lo _ hst (by omega)]
    obtain ⟨i1, i2⟩ := ih _ (hidle (sciFrameOut o s.rxdt st hi mi lo (xorSum [st, hi, mi, lo])).1)
    simp only [i1, i2, true_and]
    simp [sciFrameOut, sciFrameMeaning, hcode, hlo.1, hlo.2]

/-- **luba_repeat_delivered_twice**: a checksum-valid LUBA frame (payload not malformed for its type) received twice in
a row from a frame boundary delivers its meaning twice (the second time in the context the first one left). -/
theorem luba_repeat_delivered_twice (o : Oracle) (s : Luba.State) (rx tx : Nat) (h : Rel s ⟨[], rx, tx⟩)
    (c n : Nat) (p : List Nat) (hn : 1 ≤ n ∧ n ≤ lubaMaxPayload) (hp : p.length = n)
    (hb : ∀ x ∈ c :: n :: p, x < 256)
    (hwf1 : Out.malformed ∉ (lubaMeaning o ⟨rx, tx⟩ c p).2)
    (hwf2 : Out.malformed ∉ (lubaMeaning o (lubaMeaning o ⟨rx, tx⟩ c p).1 c p).2) :
    (Luba.runChunk o s ((0x59 :: c :: n :: (p ++ [xorSum (c :: n :: p)])) ++
        (0x59 :: c :: n :: (p ++ [xorSum (c :: n :: p)])))).err = none ∧
    (Luba.runChunk o s ((0x59 :: c :: n :: (p ++ [xorSum (c :: n :: p)])) ++
        (0x59 :: c :: n :: (p ++ [xorSum (c :: n :: p)])))).items.map Out.item =
      (lubaMeaning o ⟨rx, tx⟩ c p).2 ++ (lubaMeaning o (lubaMeaning o ⟨rx, tx⟩ c p).1 c p).2 := by
  have hdf : lubaDeframe o ⟨rx, tx⟩ ((0x59 :: c :: n :: (p ++ [xorSum (c :: n :: p)])) ++
        (0x59 :: c :: n :: (p ++ [xorSum (c :: n :: p)]))) =
      (lubaMeaning o ⟨rx, tx⟩ c p).2 ++ (lubaMeaning o (lubaMeaning o ⟨rx, tx⟩ c p).1 c p).2 := by
    have hshape : (0x59 :: c :: n :: (p ++ [xorSum (c :: n :: p)])) ++ (0x59 :: c :: n :: (p ++ [xorSum (c :: n :: p)])) =
        0x59 :: c :: n :: (p ++ xorSum (c :: n :: p) :: (0x59 :: c :: n :: (p ++ xorSum (c :: n :: p) :: []))) := by simp
    rw [hshape, deframe_good_frame o _ c n p _ hn hp, deframe_good_frame o _ c n p [] hn hp, deframe_nil,
      List.append_nil]
  have hbytes : ∀ x ∈ (0x59 :: c :: n :: (p ++ [xorSum (c :: n :: p)])) ++
      (0x59 :: c :: n :: (p ++ [xorSum (c :: n :: p)])), x < 256 :=
    fun x hx => (List.mem_append.mp hx).elim (frame_lt c n p hb x) (frame_lt c n p hb x)
  obtain ⟨r1, r2⟩ := luba_always_resyncs o s rx tx h _ hbytes (by
    show Out.malformed ∉ lubaDeframe o _ _
    rw [hdf]; simp only [List.mem_append, not_or]; exact ⟨hwf1, hwf2⟩)
  exact ⟨r1, by rw [r2, hdf]⟩

/-! ## non-vacuity -/

/-- the bus short-circuit report of device 3, three times in a row: three device replies -/
example : (Sci.runChunk ⟨fun _ _ _ => true, fun _ _ _ => true⟩ Sci.init
    ([0x37, 0, 0, 2, 0x35] ++ [0x37, 0, 0, 2, 0x35] ++ [0x37, 0, 0, 2, 0x35])).items =
    [.sciinfo 3 7, .sciinfo 3 7, .sciinfo 3 7] := by decide

/-- a well-formed stream with noise, a bad length, an observed ENABLE DEVICE TYPE and a backward frame -/
example : LubaWellFormed ⟨fun _ _ _ => true, fun _ _ _ => true⟩ ⟨0, 0⟩
    [0x00, 0x59, 0x31, 0x17, 0x59, 0x31, 0x06, 0, 0, 0, 0x90, 0xC1, 0x06, 0x76,
     0x59, 0x31, 0x05, 0, 0, 0, 0x88, 0x55, 0xE9] := by
  simp [LubaWellFormed, lubaDeframe, lubaMaxPayload, xorSum, lubaMeaning, lubaEvent]

/-- a length byte of 21 is refused by the repaired receiver and a following frame is delivered -/
example : (Luba.runChunk ⟨fun _ _ _ => true, fun _ _ _ => true⟩ Luba.init
    ([0x59, 0x31, 21] ++ [0x59, 0x2B, 0x03, 0x01, 0x12, 0x00, 0x3B])).items = [.settings 1 0x12] := by
  decide

/-- the bound 23 is tight: after 'Y' and 22 bytes of value 20 the receiver still waits for the checksum and the
following frame is lost; after 23 it is delivered -/
example : (Luba.runChunk ⟨fun _ _ _ => true, fun _ _ _ => true⟩ Luba.init
    ([0x59] ++ List.replicate 22 20 ++ [0x59, 0x2B, 0x03, 0x01, 0x12, 0x00, 0x3B])).items = [] ∧
    (Luba.runChunk ⟨fun _ _ _ => true, fun _ _ _ => true⟩ Luba.init
    ([0x59] ++ List.replicate 23 20 ++ [0x59, 0x2B, 0x03, 0x01, 0x12, 0x00, 0x3B])).items = [.settings 1 0x12] := by
  decide

/-- "bytes other than 'Y'" cannot be weakened to arbitrary bytes: 23 bytes ending in `'Y' 31 14` swallow the frame -/
example : (Luba.runChunk ⟨fun _ _ _ => true, fun _ _ _ => true⟩ Luba.init
    (List.replicate 20 0 ++ [0x59, 0x31, 0x14] ++ [0x59, 0x2B, 0x03, 0x01, 0x12, 0x00, 0x3B])).items = [] := by
  decide

end DaliVerif.Props.C19
