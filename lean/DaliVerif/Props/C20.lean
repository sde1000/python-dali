import DaliVerif.Proofs.WatchRefine
import DaliVerif.Proofs.Registry
/-!
# C20 — bus watchers report every observed transaction once, paired, in order

Property theorems only.  `BusWatch.run` is the model of the Tridonic
`_bus_watch` loop (`Model/BusWatch.lean`, tied to the code by the
correspondence suite `watch`); `Spec.Transactions` reads a whole history of
gateway packets and time-outs declaratively, with one item of look-ahead.
`serialRun` is the observed-frame path of the two serial receivers, `Reg` the
subscriber registry both drivers deliver through, `KReg` the serial drivers'
handler table with its `hash()` keys.
-/
namespace DaliVerif.Props.C20
open DaliVerif.BusWatch DaliVerif.Answer DaliVerif.Spec.Transactions
open DaliVerif.Proofs

/-- **The watcher refines the declarative reading of the history**: over any
history of packets and time-outs, started with nothing pending and no device
type, the reports delivered to subscribers — commands, their paired responses,
error flags, order — are exactly those of the history parsed into
transactions. -/
theorem watch_refines (dec : Decode) (h : List Item) :
    (run dec WatchState.init (events h)).2 = reports dec h := by
  unfold reports transactions WatchState.init
  rw [WatchRefine.run_filter_other]
  exact WatchRefine.core dec 0 _ (WatchRefine.noOther_filter h)

theorem run_append (dec : Decode) (s : WatchState) (a b : List Item) :
    (run dec s (events (a ++ b))).2 =
      (run dec s (events a)).2 ++ (run dec (run dec s (events a)).1 (events b)).2 := by
  rw [WatchRefine.events_append, WatchRefine.run_append]

/-- Every forward frame of the history belongs to exactly one transaction, in
order; the identical repeat of a send-twice command is the second frame of its
`twiceGood` transaction and of nothing else. -/
theorem each_forward_frame_once_in_order (dec : Decode) (h : List Item) :
    (transactions dec h).flatMap framesOf = fwdFrames h := by
  unfold transactions
  rw [WatchRefine.parse_frames, WatchRefine.fwdFrames_filter_other]

/-- Each command is decoded under the device type left by the command just
before it (`n` after ENABLE DEVICE TYPE `n`, 0 after anything else), starting
from 0: a device type never survives an intervening forward frame. -/
theorem devicetype_only_from_immediate_predecessor (dec : Decode) (h : List Item) :
    DtChain dec 0 (transactions dec h) :=
  WatchRefine.parse_dtChain dec 0 _

/-- A query is reported once, together with what closed it: the backward frame
that followed, a framing error, or "no answer" on the gateway's "no frame"
packet or the time-out; the watcher is then idle again with the device type
the query left. -/
theorem query_paired (dec : Decode) (d : Nat) (f : Fwd) (post : List Item)
    (ht : (decode dec f d).info.twice = false)
    (hr : (decode dec f d).info.resp.isSome = true) :
    (∀ b, (run dec ⟨none, d⟩ (events (.pkt (.fwd f) :: .pkt (.back b) :: post))).2 =
      ⟨decode dec f d, some (.value b), false⟩ ::
        (run dec ⟨none, dtAfter (decode dec f d)⟩ (events post)).2) ∧
    (run dec ⟨none, d⟩ (events (.pkt (.fwd f) :: .pkt .backErr :: post))).2 =
      ⟨decode dec f d, some (.framing 255), false⟩ ::
        (run dec ⟨none, dtAfter (decode dec f d)⟩ (events post)).2 ∧
    (run dec ⟨none, d⟩ (events (.pkt (.fwd f) :: .pkt .noFrame :: post))).2 =
      ⟨decode dec f d, some .silent, false⟩ ::
        (run dec ⟨none, dtAfter (decode dec f d)⟩ (events post)).2 ∧
    (run dec ⟨none, d⟩ (events (.pkt (.fwd f) :: .gap :: post))).2 =
      ⟨decode dec f d, some .silent, false⟩ ::
        (run dec ⟨none, dtAfter (decode dec f d)⟩ (events post)).2 := by
  have hm : needsMore (decode dec f d) = true := Bool.or_eq_true_iff.mpr (.inr hr)
  have h (x : Item) (hx : isOther x = false) := WatchRefine.run_fwd_pending dec d f x post hm hx
  simp only [WatchRefine.close, ht, Bool.false_eq_true, if_false] at h
  exact ⟨fun b => h (.pkt (.back b)) rfl, h (.pkt .backErr) rfl, h (.pkt .noFrame) rfl, h .gap rfl⟩

/-- A query overtaken by another forward frame is reported with "no answer",
and the new frame is then processed afresh (under the device type the query
left). -/
theorem query_unanswered_on_forward (dec : Decode) (d : Nat) (f g : Fwd) (post : List Item)
    (ht : (decode dec f d).info.twice = false)
    (hr : (decode dec f d).info.resp.isSome = true) :
    (run dec ⟨none, d⟩ (events (.pkt (.fwd f) :: .pkt (.fwd g) :: post))).2 =
      ⟨decode dec f d, some .silent, false⟩ ::
        (run dec ⟨none, dtAfter (decode dec f d)⟩ (events (.pkt (.fwd g) :: post))).2 := by
  simpa [WatchRefine.close, ht, reportOf, -WatchRefine.decode_info] using
    WatchRefine.run_fwd_pending dec d f (.pkt (.fwd g)) post (Bool.or_eq_true_iff.mpr (.inr hr)) rfl

/-- A send-twice command is reported exactly once; its error flag is clear iff
the very next item is the identical forward frame (not a time-out, a different
frame, a backward frame, a framing error or "no frame").  The identical repeat
is consumed; a different forward frame is processed afresh; anything else is
consumed. -/
theorem twice_good_iff_identical_repeat_in_time (dec : Decode) (d : Nat) (f : Fwd) (x : Item)
    (post : List Item) (ht : (dec f d).twice = true) (hx : x ≠ .pkt .other) :
    (run dec ⟨none, d⟩ (events (.pkt (.fwd f) :: x :: post))).2 =
      ⟨decode dec f d, none, !(decide (x = .pkt (.fwd f)))⟩ ::
        (run dec ⟨none, dtAfter (decode dec f d)⟩
          (events (match (generalizing := false) x with
            | .pkt (.fwd g) => if g = f then post else x :: post
            | _ => post))).2 := by
  have h := WatchRefine.run_fwd_pending dec d f x post (by simp [needsMore, ht])
  cases x with
  | gap => simpa [WatchRefine.close, ht, reportOf] using h rfl
  | pkt p =>
    cases p with
    | fwd g => by_cases hg : g = f <;> simpa [WatchRefine.close, ht, hg, reportOf] using h rfl
    | other => exact absurd rfl hx
    | _ => simpa [WatchRefine.close, ht, reportOf] using h rfl

/-- Fan-out from any registry whose subscriber list has no duplicates: subscriber `i` receives,
after what it had, exactly the items emitted while it was registered. -/
theorem fanout_from {α} (evs : List (RegEv α)) (r : Reg α) (hr : r.subs.Nodup) (i : Nat) :
    (r.run evs).received i = r.received i ++ expectedFor i (decide (i ∈ r.subs)) evs := by
  induction evs generalizing r with
  | nil => simp [Registry.run_nil, expectedFor]
  | cons e evs ih =>
    rw [Registry.run_cons, ih _ (Registry.step_nodup r hr e)]
    cases e with
    | sub j =>
      by_cases e : j = i
      · subst e; by_cases hj : j ∈ r.subs <;> simp [Reg.step, Reg.received, expectedFor, hj]
      · by_cases hj : j ∈ r.subs <;> simp [Reg.step, Reg.received, expectedFor, hj, beq_eq_false_iff_ne.mpr e, Ne.symm e]
    | unsub j =>
      by_cases e : j = i
      · subst e; simp [Reg.step, Reg.received, expectedFor]
      · simp [Reg.step, Reg.received, expectedFor, bne, beq_eq_false_iff_ne.mpr e, Ne.symm e]
    | emit x =>
      simp only [expectedFor, Reg.step]
      rw [Registry.received_append _ _ _ r.subs, Registry.deliver_one _ hr]
      by_cases hi : i ∈ r.subs <;> simp [hi, Reg.received]

/-- **Fan-out**: whatever the interleaving of registrations, removals and
emissions, subscriber `i` receives exactly the items emitted while it was
registered, each once, in order. -/
theorem fanout {α} (evs : List (RegEv α)) (i : Nat) :
    (Reg.init.run evs).received i = expectedFor i false evs := by
  have := fanout_from evs (Reg.init : Reg α) (by simp [Reg.init]) i
  simpa [Reg.init, Reg.received] using this

/-- Removing subscriber `i` changes nothing of what any other subscriber
receives, before or after. -/
theorem unsubscribe_local {α} (evs1 evs2 : List (RegEv α)) (i j : Nat) (h : j ≠ i) :
    (Reg.init.run (evs1 ++ .unsub i :: evs2)).received j =
      (Reg.init.run (evs1 ++ evs2)).received j := by
  rw [fanout, fanout, Registry.expectedFor_skip _ _ _ _ fun on => by
    simp [expectedFor, bne_iff_ne.mpr (Ne.symm h)]]

/-- Nor does registering subscriber `i`. -/
theorem subscribe_local {α} (evs1 evs2 : List (RegEv α)) (i j : Nat) (h : j ≠ i) :
    (Reg.init.run (evs1 ++ .sub i :: evs2)).received j =
      (Reg.init.run (evs1 ++ evs2)).received j := by
  rw [fanout, fanout, Registry.expectedFor_skip _ _ _ _ fun on => by
    simp [expectedFor, beq_eq_false_iff_ne.mpr (Ne.symm h)]]

/-- **The handler table with explicit keys is the registry**: if the key of an
object handed to `add_handler` / `del_handler` never equals the key of another
object registered at that moment (`KeysFresh` — what `hash()` gives for live
objects), the table holds exactly the registry's subscribers in the same order
and the same items are delivered to the same subscribers in the same order. -/
theorem keyed_registry_refines {α} (key : Nat → Nat) (evs : List (RegEv α))
    (hf : KeysFresh key [] evs) :
    (KReg.init.run key evs).subs = (Reg.init.run evs).subs ∧
    (KReg.init.run key evs).delivered = (Reg.init.run evs).delivered := by
  have h := Registry.keyed_refines key evs (Reg.init : Reg α) KReg.init rfl rfl
    (by simp [Reg.init]) (by intro a ha; simp [Reg.init] at ha) hf
  refine ⟨?_, h.2.1⟩
  simp [KReg.subs, h.1, Registry.entries, Function.comp_def]

/-- **The keys of the live subscribers are pairwise distinct**, and each
subscriber sits under its own key — so `del_handler(x)` removes `x` and nobody
else, `add_handler(x)` overwrites nobody else. -/
theorem live_keys_distinct {α} (key : Nat → Nat) (evs : List (RegEv α))
    (hf : KeysFresh key [] evs) :
    (KReg.init.run key evs).keys.Nodup ∧ ∀ p ∈ (KReg.init.run key evs).table, p.1 = key p.2 := by
  have h := Registry.keyed_refines key evs (Reg.init : Reg α) KReg.init rfl rfl
    (by simp [Reg.init]) (by intro a ha; simp [Reg.init] at ha) hf
  constructor
  · rw [KReg.keys, h.1]; exact Registry.keys_nodup key _ h.2.2.1 h.2.2.2
  · intro p hp
    rw [h.1] at hp
    simp only [Registry.entries, List.mem_map] at hp
    obtain ⟨i, -, rfl⟩ := hp
    rfl

/-- Fan-out for the keyed table: every queue holds exactly the items distributed
while it was subscribed, each once, in order — for every join / leave order. -/
theorem keyed_fanout {α} (key : Nat → Nat) (evs : List (RegEv α)) (hf : KeysFresh key [] evs)
    (i : Nat) : (KReg.init.run key evs).received i = expectedFor i false evs := by
  rw [← fanout]
  simp [KReg.received, Reg.received, (keyed_registry_refines key evs hf).2]

theorem keysFresh_of_injective {α} (key : Nat → Nat) (hinj : ∀ i j, key i = key j → i = j)
    (evs : List (RegEv α)) : KeysFresh key [] evs :=
  Registry.keysFresh_of_injective key hinj [] evs

/-- "next key = current size of the table" (the child remembers its key) is NOT
fresh: join 0, join 1, leave 0, join 2 — subscriber 2 is stored under key 1 and
overwrites subscriber 1, which silently stops receiving; subscriber 1 leaving
then removes subscriber 2. -/
example :
    let stepL := fun (r : HTable × List (Nat × Nat)) (e : RegEv Unit) =>
      match e with
      | .sub i => (r.1.set r.1.length i, (i, r.1.length) :: r.2)
      | .unsub i => match r.2.lookup i with
        | some k => (r.1.pop k, r.2)
        | none => r
      | .emit _ => r
    let r := [RegEv.sub 0, .sub 1, .unsub 0, .sub 2].foldl stepL ([], [])
    r.1.map (·.2) = [2] ∧ (stepL r (.unsub 1)).1 = [] ∧
    (Reg.init.run [RegEv.sub 0, .sub 1, .unsub 0, .sub 2 (α := Unit)]).subs = [1, 2] := by decide

/-- A forward frame of ANOTHER LENGTH is never the repeat of a pending
send-twice command, whatever its bits (16-bit `01 20` followed by 24-bit
`00 01 20`): the command is reported as failed, and the other frame is a
transaction of its own. -/
theorem other_length_is_not_a_repeat (dec : Decode) (d : Nat) (f g : Fwd) (post : List Item)
    (ht : (dec f d).twice = true) (hb : g.bits ≠ f.bits) :
    (run dec ⟨none, d⟩ (events (.pkt (.fwd f) :: .pkt (.fwd g) :: post))).2 =
      ⟨decode dec f d, none, true⟩ ::
        (run dec ⟨none, dtAfter (decode dec f d)⟩ (events (.pkt (.fwd g) :: post))).2 := by
  have hg : g ≠ f := fun e => hb (e ▸ rfl)
  have h := twice_good_iff_identical_repeat_in_time dec d f (.pkt (.fwd g)) post ht (by simp)
  simpa [hg] using h

/-- The serial receivers: every observed forward frame becomes one command,
decoded under the device type left by the frame just before it. -/
theorem serial_refines (dec : Decode) (d : Nat) (fs : List Fwd) :
    serialRun dec d fs = serialCmds dec d fs := by
  induction fs generalizing d with
  | nil => rfl
  | cons f fs ih => simp [serialRun, serialCmds, serialStep, ih]

/-- … and the commands distributed are the observed frames, each once, in order. -/
theorem serial_each_frame_once_in_order (dec : Decode) (d : Nat) (fs : List Fwd) :
    (serialRun dec d fs).map (·.frame) = fs := by
  induction fs generalizing d with
  | nil => rfl
  | cons f fs ih => simp [serialRun, serialStep, ih]

/-! ### the statements are about something: concrete histories -/

/-- data 1 = ENABLE DEVICE TYPE 6, data 2 = a query whose meaning depends on
the device type, data 3 = a send-twice command, anything else plain -/
private def dec0 : Decode := fun f dt =>
  if f.data = 1 then ⟨false, none, some 6⟩
  else if f.data = 2 then ⟨false, some (7 + dt), none⟩
  else if f.data = 3 then ⟨true, none, none⟩
  else ⟨false, none, none⟩

/-- EDT 6, query (decoded under 6), its answer, a send-twice command left alone -/
example :
    reports dec0 [.pkt (.fwd ⟨16, 1⟩), .pkt (.fwd ⟨16, 2⟩), .pkt (.back 5), .pkt (.fwd ⟨16, 3⟩), .gap]
      = [⟨⟨⟨16, 1⟩, 0, ⟨false, none, some 6⟩⟩, none, false⟩,
         ⟨⟨⟨16, 2⟩, 6, ⟨false, some 13, none⟩⟩, some (.value 5), false⟩,
         ⟨⟨⟨16, 3⟩, 0, ⟨true, none, none⟩⟩, none, true⟩] := by
  rw [← watch_refines]; decide

/-- a send-twice command repeated in time (an ignored packet in between), then
a query overtaken by a frame: the device type does not reach the second query -/
example :
    reports dec0 [.pkt (.fwd ⟨16, 3⟩), .pkt .other, .pkt (.fwd ⟨16, 3⟩), .pkt (.fwd ⟨16, 1⟩),
        .pkt (.fwd ⟨16, 2⟩), .pkt (.fwd ⟨16, 2⟩), .pkt .noFrame]
      = [⟨⟨⟨16, 3⟩, 0, ⟨true, none, none⟩⟩, none, false⟩,
         ⟨⟨⟨16, 1⟩, 0, ⟨false, none, some 6⟩⟩, none, false⟩,
         ⟨⟨⟨16, 2⟩, 6, ⟨false, some 13, none⟩⟩, some .silent, false⟩,
         ⟨⟨⟨16, 2⟩, 0, ⟨false, some 7, none⟩⟩, some .silent, false⟩] := by
  rw [← watch_refines]; decide

example :
    (Reg.init.run [.sub 1, .emit 'a', .sub 2, .sub 1, .emit 'b', .unsub 1, .emit 'c']).received 1
      = ['a', 'b'] ∧
    (Reg.init.run [.sub 1, .emit 'a', .sub 2, .sub 1, .emit 'b', .unsub 1, .emit 'c']).received 2
      = ['b', 'c'] := by decide

example : serialRun dec0 0 [⟨16, 1⟩, ⟨16, 2⟩, ⟨16, 2⟩] =
    [⟨⟨16, 1⟩, 0, ⟨false, none, some 6⟩⟩, ⟨⟨16, 2⟩, 6, ⟨false, some 13, none⟩⟩,
     ⟨⟨16, 2⟩, 0, ⟨false, some 7, none⟩⟩] := by decide

end DaliVerif.Props.C20
