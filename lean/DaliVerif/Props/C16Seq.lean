import DaliVerif.Props.C16
/-!
# C16, Tridonic: why the sequence numbers must not be re-used at once

`Timely` (Props/C16.lean) allows a report to arrive after its command has left `_outstanding` (the caller was
cancelled, or the gateway repeats the echo of its last frame).  With the driver's running counter such a report meets
no entry and is dropped (`late_report_is_dropped`); with the allocation "lowest number with no command outstanding"
(seeded change C16-O) it goes to the NEXT caller: `lowest_free_misroutes`, the four-event history — write, abandon,
write, late report about the first — that the harness's `route_tridonic_late` replays on the real driver.
-/
namespace DaliVerif.Props.C16Seq
open DaliVerif DaliVerif.Routing DaliVerif.Answer

/-- with the running counter: a report about a command that has left `_outstanding`, arriving while only the
next command is outstanding, changes nothing -/
theorem late_report_is_dropped (s0 : Nat) (h1 : 1 ≤ s0) (h2 : s0 ≤ 255) (m : TMsg) :
    let t := (Tri.init s0).run [.alloc, .finish 0, .alloc]
    (t.step (.deliver 0 m)).1.out = t.out ∧ t.out.map (·.msgs) = [[]] := by
  have hne : seqAt s0 1 ≠ seqAt s0 0 := by
    intro h
    have := (Props.C16.seqAt_eq_iff s0 1 0 h1 h2).mp h
    omega
  simp [Tri.run, Tri.step, Tri.init, hne]

/-- the counterfactual allocation of seeded change C16-O: the lowest number ≥ 1 that no outstanding command uses
(fuel 256: there are at most two commands in flight) -/
def lowestFree (out : List Entry) : Nat :=
  ((List.range 256).drop 1).find? (fun s => !out.any (·.seq == s)) |>.getD 1

/-- `Tri.step` with that allocation; a report is routed by the number its command was written with -/
structure TriL where
  next : Nat
  seqOf : List (Nat × Nat)     -- ghost: allocation index ↦ number written
  out : List Entry
  deriving Repr

def TriL.step (t : TriL) : TriEv → TriL
  | .alloc =>
    let s := lowestFree t.out
    { next := t.next + 1, seqOf := (t.next, s) :: t.seqOf, out := t.out ++ [⟨s, t.next, []⟩] }
  | .deliver about m =>
    match t.seqOf.lookup about with
    | none => t
    | some s => { t with out := t.out.map (fun e => if e.seq == s then { e with msgs := e.msgs ++ [⟨about, m⟩] } else e) }
  | .finish idx => { t with out := t.out.filter (·.idx != idx) }

def TriL.run (evs : List TriEv) : TriL := evs.foldl TriL.step ⟨0, [], []⟩

/-- **the witness**: under "lowest free number" the late report about command 0 lands in command 1's list -/
theorem lowest_free_misroutes (m : TMsg) :
    (TriL.run [.alloc, .finish 0, .alloc, .deliver 0 m]).out = [⟨1, 1, [⟨0, m⟩]⟩] := by
  simp [TriL.run, TriL.step, lowestFree, List.lookup]
  decide

/-- … which is exactly what `routing_tridonic`'s first clause forbids -/
theorem lowest_free_violates_routing (m : TMsg) :
    ¬ (∀ e ∈ (TriL.run [.alloc, .finish 0, .alloc, .deliver 0 m]).out, ∀ x ∈ e.msgs, x.about = e.idx) := by
  rw [lowest_free_misroutes]
  intro h
  have := h ⟨1, 1, [⟨0, m⟩]⟩ (by simp) ⟨0, m⟩ (by simp)
  simp at this

end DaliVerif.Props.C16Seq
