import DaliVerif.Model.CallerProgram
/-!
# C16, serial gateways: what a command's confirmation wait can consume (K6)

The SCI gateway reports everything that is not a DALI frame - confirmations, and the error report that follows a
garbled answer - as "information frames" in ONE queue (`mail` entries with tag 0).  `send()` waits for "the next
information frame" after each write.  The repaired `send()` discards every stale report in front of the
EnableDeviceType prefix as well as in front of the command (`prefixFlush`); the unchanged one only in front of
the command.  Stated on the model of `Model/CallerProgram.lean` / `Model/Async.lean`:

* `sci_send_shape`: the program text - each of the two waits for a confirmation comes as flush, inner lock,
  write, wait;
* `flush_leaves_no_stale_report`: the flush step leaves no tag-0 entry, so whatever a later wait takes was delivered
  after it;
* `k6_witness_old_sci_send`: on the unchanged program a report left behind by the previous exchange IS taken for
  the prefix's confirmation: the command is written while the gateway has not confirmed the prefix
  (two frames in flight), which the repaired program cannot do (`k6_repaired`).
-/
namespace DaliVerif.Props.C16Serial
open DaliVerif DaliVerif.Async

/-- SCI `send` of a command that needs a device type, as the repaired code writes it -/
theorem sci_send_shape (c : Cmd) (h : c.frame.dt ≠ 0) :
    (serialSend c .sci).map (·.act) =
      [.connCheck, .acq, .flush, .iacq, .write (edtFrame c.frame.dt), .await .confirm true, .irel,
       .flush, .iacq, .write c.frame, .await .confirm true, .irel] ++
      (if c.query then [.poll] else []) ++ [.rel] := by
  obtain ⟨⟨bits, data, twice, dt⟩, query⟩ := c
  simp only at h
  cases query <;> simp [serialSend, prefixFlush, serialSendBody, serialCommand, h]

/-- the flush step (SCI `reset_dali_response`) leaves no stale report behind -/
theorem flush_leaves_no_stale_report {s s' : St} {t : Tid} {tk : Task} {rest : List Step} {st : Step}
    (ht : s.tasks[t]? = some tk) (hp : tk.prog = st :: rest) (ha : st.act = .flush)
    (h : step? s (.act t) = some s') : ∀ m ∈ s'.mail, m.1 ≠ 0 := by
  simp only [step?, actStep, ht, hp, ha] at h
  cases h
  intro m hm
  simpa [setTask] using (List.mem_filter.mp hm).2

/-- the unchanged SCI `send`: no flush in front of the prefix -/
def oldSciSend (c : Cmd) : Task :=
  { prog := [ { act := .connCheck }, { act := .acq } ] ++
      (if c.frame.dt = 0 then [] else serialCommand .sci (edtFrame c.frame.dt) [Act.rel]) ++
      serialSendBody .sci c [Act.rel] ++ [ { act := .rel } ] }

def c1 : Cmd := ⟨⟨16, 0x01F1, false, 1⟩, true⟩      -- QueryBatteryCharge(0), device type 1

def s0 : St := { cap := 1, conn := { limit := none, hsSteps := 0 } }

/-- K6: a report left in the queue (the error information frame of the previous, garbled answer) is consumed by
the unchanged program's wait for the PREFIX's confirmation - the program reaches the write of the command itself
(two writes on the wire) although the gateway has delivered nothing since the prefix was written -/
theorem k6_witness_old_sci_send :
    (run? s0 [.env .connect, .deliver 0 .confirm, .spawn (oldSciSend c1),
              .act 0, .act 0, .act 0, .act 0, .act 0, .act 0, .act 0, .act 0, .act 0]).map
      (fun s => s.wire.map (·.2.data)) = some [0xC101, 0x01F1] := by decide

/-- … the repaired program, on the same schedule, blocks at the prefix's confirmation (the stale report is gone):
the sixth caller step (the ninth label) is not enabled, only the prefix has been written -/
theorem k6_repaired :
    (run? s0 [.env .connect, .deliver 0 .confirm, .spawn (mkTask .sci (.send c1 true)),
              .act 0, .act 0, .act 0, .act 0, .act 0]).map (fun s => s.wire.map (·.2.data)) = some [0xC101] ∧
    (run? s0 [.env .connect, .deliver 0 .confirm, .spawn (mkTask .sci (.send c1 true)),
              .act 0, .act 0, .act 0, .act 0, .act 0, .act 0]) = none := by decide

end DaliVerif.Props.C16Serial
