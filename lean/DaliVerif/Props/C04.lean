import DaliVerif.Proofs.Instance
import DaliVerif.Gen.Commands
/-!
# C04 — address and instance bytes: exact, local, mutually exclusive codec

`Addr`/`Inst` are the models of `dali/address.py` (`Model/Address.lean`, tied to
the code exhaustively by the correspondence of `tools/props/c04.py` and, for
integer arguments, by translation of the source in `Tie/Address.lean`);
`Spec.partition` and `Spec.instOfByte` are the standard's tables written by
byte ranges.
-/
set_option linter.unusedSimpArgs false
namespace DaliVerif.Props.C04
open DaliVerif Frame Spec Addr

/-- **Decode partition** — for every frame of every size and every registration
order that contains the eight concrete classes, reading the frame yields at
most one address kind, chosen exactly by the standard's partition of the
address byte (short, group, broadcast, broadcast-unaddressed, otherwise none;
device kinds only in 24-bit command frames). -/
theorem decode_partition (order : List AddrKind) (hok : OrderOK order) (f : Frame) :
    Addr.fromFrame order f = partition f :=
  fromFrame_eq_partition order hok f

/-- replacing the field from bit `k` up to the top of an `n`-bit number keeps every other bit -/
private theorem testBit_outside {k n b d : Nat} (hd : d < 2 ^ n)
    (hd' : 2 ^ k * b + d % 2 ^ k < 2 ^ n) (i : Nat) (hi : i < k ∨ n ≤ i) :
    (2 ^ k * b + d % 2 ^ k).testBit i = d.testBit i := by
  rcases hi with h | h
  · rw [Nat.testBit_two_pow_mul_add _ (Nat.mod_lt _ (Nat.two_pow_pos k))]
    simp [h, Nat.testBit_mod_two_pow]
  · rw [testBit_eq_false_of_lt hd' h, testBit_eq_false_of_lt hd h]

/-- **Gear address: write is local and reads back** — for all 82 gear address
values and all 2^16 frames: the write succeeds, the width stays 16, only bits
15..9 can change, and reading the frame back yields the same address. -/
theorem gear_write_read (order : List AddrKind) (hok : OrderOK order)
    (a : Addr) (hv : a.Valid) (hg : a.isGear = true) (d : Nat) (hd : d < 2 ^ 16) :
    ∃ d', a.addToFrame ⟨16, d⟩ = .ok ⟨16, d'⟩ ∧ d' < 2 ^ 16 ∧
      (∀ i, ¬ (9 ≤ i ∧ i ≤ 15) → d'.testBit i = d.testBit i) ∧
      Addr.fromFrame order ⟨16, d'⟩ = some a := by
  have hb := addrByte_lt a hv
  have hlt : 2 ^ 9 * addrByte a + d % 2 ^ 9 < 2 ^ 16 := by omega
  refine ⟨_, addToFrame_gear a hv hg d hd, hlt, fun i hi => testBit_outside hd hlt i (by omega), ?_⟩
  have : (512 * addrByte a + d % 512) / 512 % 128 = addrByte a := by omega
  rw [decode_partition order hok, partition, if_pos rfl, this]
  exact gearPartition_addrByte a hv hg

/-- **Device address: write is local and reads back** — for all 98 device
address values and all 2^24 frames the write changes only bits 23..17; when
the frame is a command frame (bit 16 = 1, which the device kinds require — an
event frame carries no address by the partition clause) it reads back. -/
theorem device_write_read (order : List AddrKind) (hok : OrderOK order)
    (a : Addr) (hv : a.Valid) (hg : a.isGear = false) (d : Nat) (hd : d < 2 ^ 24) :
    ∃ d', a.addToFrame ⟨24, d⟩ = .ok ⟨24, d'⟩ ∧ d' < 2 ^ 24 ∧
      (∀ i, ¬ (17 ≤ i ∧ i ≤ 23) → d'.testBit i = d.testBit i) ∧
      (d.testBit 16 = true → Addr.fromFrame order ⟨24, d'⟩ = some a) := by
  have hb := addrByte_lt a hv
  have hlt : 2 ^ 17 * addrByte a + d % 2 ^ 17 < 2 ^ 24 := by omega
  refine ⟨_, addToFrame_device a hv hg d hd, hlt, fun i hi => testBit_outside hd hlt i (by omega),
    fun h16 => ?_⟩
  rw [Nat.testBit_eq_decide_div_mod_eq, decide_eq_true_eq] at h16
  have e1 : (131072 * addrByte a + d % 131072) / 131072 % 128 = addrByte a := by omega
  have e2 : (131072 * addrByte a + d % 131072) / 65536 % 2 = 1 := by omega
  rw [decode_partition order hok]
  simp only [partition, Nat.reduceEqDiff, if_false, if_true, e1, e2, decide_true]
  exact devicePartition_addrByte a hv hg

/-- The excluded point of `device_write_read`: written into an event frame
(bit 16 = 0) a device address does not read back — and must not, by the
partition clause. -/
example : (Addr.deviceShort 5).addToFrame ⟨24, 0⟩ = .ok ⟨24, 5 * 131072⟩ ∧
    partition ⟨24, 5 * 131072⟩ = none := by decide

/-- **Wrong size refused** — a frame of any other size is refused with
`IncompatibleFrame`; no new frame is produced (left unmodified by type). -/
theorem wrong_size_refused (a : Addr) (f : Frame) (h : f.bits ≠ a.frameSize) :
    a.addToFrame f = .error .IncompatibleFrame := by
  simp [Addr.addToFrame, h]

/-- **Equality** holds exactly when kind and number agree; in particular gear
and device kinds are never equal to each other. -/
theorem eq_iff (a b : Addr) : a.eq b = true ↔ a = b := by
  cases a <;> cases b <;> simp [Addr.eq]

theorem gear_ne_device (a b : Addr) (ha : a.isGear = true) (hb : b.isGear = false) :
    a.eq b = false := by
  cases a <;> cases b <;> simp [Addr.eq, Addr.isGear] at *

/-- **Instance byte: exactly one kind for each of the 256 bytes** — reading
any 24-bit frame yields the instance kind the standard's Table 2 assigns to
bits 15..8 (a total function: exactly one kind per byte). -/
theorem inst_partition (d : Nat) :
    Inst.fromFrame ⟨24, d⟩ = some (instOfByte (d / 256 % 256)) := by
  rw [Inst.fromFrame_eq_ofByteModel]
  exact congrArg some (Inst.ofByteModel_eq_spec ⟨d / 256 % 256, Nat.mod_lt _ (by decide)⟩)

/-- a frame of any other size carries no instance byte and is refused on write -/
theorem inst_wrong_size (i : Inst) (f : Frame) (h : f.bits ≠ 24) :
    Inst.fromFrame f = none ∧ i.addToFrame f = .error .IncompatibleFrame := by
  simp [Inst.fromFrame, Inst.addToFrame, h]

/-- **Instance byte: write is local and reads back** — for all 196 instance
values (and the 60 reserved bytes as decoding produces them) and all 2^24
frames: only bits 15..8 change and reading back yields an equal object. -/
theorem inst_write_read (i : Inst) (hc : i.Canonical) (d : Nat) (hd : d < 2 ^ 24) :
    ∃ d', i.addToFrame ⟨24, d⟩ = .ok ⟨24, d'⟩ ∧ d' < 2 ^ 24 ∧
      (∀ j, ¬ (8 ≤ j ∧ j ≤ 15) → d'.testBit j = d.testBit j) ∧
      Inst.fromFrame ⟨24, d'⟩ = some i ∧ i.eq i = true := by
  have hb := Inst.byte_lt i hc.1
  have hb' : i.byte < 2 ^ (15 + 1 - 8) := by simpa using hb
  have he := setSliceRaw_eqA 24 d 15 8 _ (by omega) (by omega) hd hb'
  refine ⟨setSliceRaw 24 d 15 8 i.byte, he ▸ Inst.addToFrame_ok i hb d hd,
    setSliceRaw_lt 24 d 15 8 _ (by omega) (by omega) hd hb', ?_, ?_, by simp [Inst.eq]⟩
  · intro j hj
    rw [testBit_setSliceRaw 24 d 15 8 _ j (by omega) (by omega) hd hb']
    simp [hj]
  · have : setSliceA d 15 8 i.byte / 256 % 256 = i.byte := by simp [setSliceA]; omega
    rw [Inst.fromFrame_eq_ofByteModel, he, this, Inst.ofByteModel_byte i hc]

/-- instance objects are equal exactly when kind and number agree -/
theorem inst_eq_iff (a b : Inst) : a.eq b = true ↔ a = b := by
  simp [Inst.eq]

/-- **The tie to the current tree**: the registration order regenerated from
`dali.address.Address._addrtypes` contains the eight concrete classes and no
class the model does not know, so the theorems above apply to `Gen.tables`. -/
theorem order_ok : OrderOK Gen.tables.addrOrder ∧ Gen.unknownAddrClasses = [] := by
  decide

/-! ### non-vacuity -/
example : OrderOK [.gearAbstract, .deviceAbstract, .gearBroadcast, .deviceBroadcast,
    .gearUnaddressed, .deviceUnaddressed, .gearGroup, .deviceGroup, .gearShort, .deviceShort] := by
  decide
example : (Addr.gearGroup 15).Valid ∧ (Inst.reserved 0x45).Canonical ∧ (Inst.type 31).Canonical := by
  refine ⟨by decide, ⟨by decide, ?_⟩, ⟨by decide, ?_⟩⟩ <;> intro b hb <;> simp at hb
  subst hb; decide

end DaliVerif.Props.C04
