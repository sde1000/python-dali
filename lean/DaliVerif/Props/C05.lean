import DaliVerif.Proofs.FrameOps
/-!
# C05 — `Frame` is a fixed-width unsigned bit vector under all operations

`Frame` is the model of `dali/frame.py` (`Model/Frame.lean`, tied to the code
by the correspondence of `tools/props/c05.py` and, for integer operands, by
translation of the source in `Tie/Frame.lean`); `Spec.Bits` is the reference
list-of-bits model.
-/
namespace DaliVerif.Props.C05
open DaliVerif Frame Spec Spec.Bits

def OpInv : Frame.Op → Prop
  | .add (some g) | .eq (some g) | .ne (some g) => Inv g
  | _ => True

/-- Construction: exactly the documented acceptance rule, and the result
satisfies the invariant. -/
theorem new_spec (b d : Int) :
    Frame.new (.int b) (.int d) =
      if 1 ≤ b ∧ 0 ≤ d ∧ d < (2 ^ b.toNat : Int) then .ok ⟨b.toNat, d.toNat⟩
      else .error .ValueError := by
  have := value_checks d b.toNat
  simp only [Frame.new, PyVal.asInt?]
  grind

theorem new_of_inv {f : Frame} (hf : Inv f) : Frame.new (.int f.bits) (.int f.data) = .ok f := by
  rw [new_spec, if_pos ⟨by have := hf.1; omega, Int.natCast_nonneg _,
    by rw [Int.toNat_natCast]; exact_mod_cast hf.2⟩]
  rfl

theorem add_some {f g : Frame} (hf : Inv f) (hg : Inv g) :
    f.add (some g) = .ok ⟨f.bits + g.bits, f.data <<< g.bits ||| g.data⟩ := by
  have hfit : (f.data <<< g.bits ||| g.data) < 2 ^ (f.bits + g.bits) :=
    Nat.or_lt_two_pow
      (by rw [Nat.shiftLeft_eq, Nat.pow_add]; exact Nat.mul_lt_mul_of_pos_right hf.2 (Nat.two_pow_pos _))
      (Nat.lt_of_lt_of_le hg.2 (Nat.pow_le_pow_right (by decide) (by omega)))
  simp only [Frame.add, ← Int.natCast_add]
  rw [new_of_inv (f := ⟨f.bits + g.bits, _⟩) ⟨by have := hf.1; simp only; omega, hfit⟩]

theorem new_inv {b d : PyVal} {f : Frame} (h : Frame.new b d = .ok f) : Inv f :=
  Frame.new_inv h

theorem ne_eq_not_eq (f : Frame) (g : Option Frame) : f.ne g = !f.eq g := by
  cases g <;> simp [Frame.ne, Frame.eq]
  grind

attribute [local simp] Frame.apply absOp Bits.apply absRes absOut abs_length bind Except.bind pure
  Except.pure Except.map in
/-- **One step refines the reference**, with the invariant and the width kept:
results, new contents and exception class all agree; on an exception the
model returns no new frame at all (the frame is unchanged by type). -/
theorem apply_refines (f : Frame) (hf : Inv f) (op : Frame.Op) (hop : OpInv op) :
    absRes (f.apply op) = Bits.apply (abs f) (absOp op) ∧
    ∀ f' o, f.apply op = .ok (f', o) → Inv f' ∧ f'.bits = f.bits := by
  refine ⟨?_, fun f' o h => ?_⟩
  · cases op with
    | getItem k =>
      cases k with
      | idx k =>
        cases hi : indexOf f.bits k with
        | error e => simp [getItem_idx, hi]
        | ok i => simp [getItem_idx, hi, abs, ← ofNat_getD _ f.data _ (indexOf_ok hi)]
      | slice a b s =>
        cases hs : sliceOf f.bits a b s with
        | error e => simp [Frame.getItem, readSlice_eq, hs]
        | ok p => simp [Frame.getItem, readSlice_eq, hs, abs, toNat_slice _ _ _ _ (sliceOf_ok hs).2]
    | setItem k v =>
      cases k with
      | idx k =>
        cases hi : indexOf f.bits k with
        | error e => simp [setItem_idx, hi]
        | ok i => simp [setItem_idx, hi, abs, ofNat_setBitRaw _ _ _ _ hf.2]
      | slice a b s =>
        cases hs : sliceOf f.bits a b s with
        | error e => simp [setItem_slice, hs]
        | ok p =>
          cases hx : valueOf (p.1 + 1 - p.2) v with
          | error e => simp [setItem_slice, hs, hx]
          | ok x =>
            have ⟨h1, h2⟩ := sliceOf_ok hs
            simp [setItem_slice, hs, hx, abs, ofNat_setSliceRaw _ _ _ _ _ h1 h2 hf.2 (valueOf_ok hx)]
    | contains v =>
      cases v with
      | bool b => simp [contains_bool hf]
      | _ => rfl
    | add g =>
      cases g with
      | none => rfl
      | some g => simp [add_some hf hop, abs, ofNat_append _ _ _ _ (show Inv g from hop).2]
    | eq g =>
      cases g with
      | none => rfl
      | some g => simp [eq_some, abs_inj hf hop]
    | ne g =>
      cases g with
      | none => rfl
      | some g => simp [ne_eq_not_eq, eq_some, abs_inj hf hop]
  · rcases apply_ok h with rfl | ⟨k, v, hs⟩
    · exact ⟨hf, rfl⟩
    · exact setItem_inv hf hs

/-- **Every history refines the reference**: after any sequence of
operations (failed ones included) the contents equal the reference list of
bits, every result and every exception class is the reference's, the width is
the initial width and the value is still below `2 ^ width`. -/
theorem history_refines (ops : List Frame.Op) (f : Frame) (hf : Frame.Inv f)
    (hops : ∀ op ∈ ops, OpInv op) :
    abs (f.run ops).1 = (Bits.run (abs f) (ops.map absOp)).1 ∧
    (f.run ops).2.map (fun r => r.map absOut) = (Bits.run (abs f) (ops.map absOp)).2 ∧
    Frame.Inv (f.run ops).1 ∧ (f.run ops).1.bits = f.bits := by
  induction ops generalizing f with
  | nil => simp [Frame.run, Bits.run, hf]
  | cons op ops ih =>
    have ⟨h1, h2⟩ := apply_refines f hf op (hops op (by simp))
    have hops' : ∀ op ∈ ops, OpInv op := fun o ho => hops o (by simp [ho])
    simp only [Frame.run, Bits.run, List.map_cons, ← h1]
    cases hap : f.apply op with
    | error e =>
      obtain ⟨i1, i2, i3⟩ := ih f hf hops'
      simp only [absRes, List.map_cons, ← i1, ← i2]
      exact ⟨trivial, rfl, i3⟩
    | ok p =>
      obtain ⟨hi', hb'⟩ := h2 p.1 p.2 hap
      obtain ⟨i1, i2, i3, i4⟩ := ih p.1 hi' hops'
      simp only [absRes, List.map_cons, ← i1, ← i2]
      exact ⟨trivial, rfl, i3, i4.trans hb'⟩

/-- The value can never leave `0 ≤ value < 2 ^ width`. -/
theorem value_in_range (ops : List Frame.Op) (f : Frame) (hf : Frame.Inv f)
    (hops : ∀ op ∈ ops, OpInv op) :
    (f.run ops).1.data < 2 ^ f.bits := by
  have := history_refines ops f hf hops
  rw [← this.2.2.2]; exact this.2.2.1.2

/-- Equality means same width and same bits. -/
theorem eq_iff (f g : Frame) (hf : Frame.Inv f) (hg : Frame.Inv g) :
    f.eq (some g) = true ↔ f.bits = g.bits ∧ abs f = abs g := by
  rw [abs_inj hf hg]
  cases f; cases g
  simp [Frame.eq]

/-- The packed view: `⌈bits/8⌉` bytes, each `< 256`, whose big-endian value is
the frame's number — and `pack` never raises on a reachable frame. -/
theorem pack_spec (f : Frame) (hf : Frame.Inv f) :
    ∃ bs, f.pack = .ok bs ∧ bs.length = (f.bits + 7) / 8 ∧ (∀ b ∈ bs, b < 256) ∧
      ofBytesBE bs = f.data := by
  have hn : f.bits / 8 + (if (f.bits % 8 != 0) = true then 1 else 0) = (f.bits + 7) / 8 := by
    by_cases h : f.bits % 8 = 0
    · simp [h]; omega
    · simp [h]; omega
  have hfit : f.data < 256 ^ ((f.bits + 7) / 8) := by
    have : (256 : Nat) = 2 ^ 8 := by decide
    rw [this, ← Nat.pow_mul]
    exact Nat.lt_of_lt_of_le hf.2 (Nat.pow_le_pow_right (by decide) (by omega))
  refine ⟨toBytesBE f.data ((f.bits + 7) / 8), ?_, toBytesBE_length _ _, toBytesBE_lt _ _, ?_⟩
  · simp only [Frame.pack, Frame.packLenNat, hn, hfit, if_true]
  · rw [ofBytesBE_toBytesBE, Nat.mod_eq_of_lt hfit]

/-- The fixed-length view: right-aligned, zero-padded, `OverflowError` exactly
when the number does not fit `l` bytes, `ValueError` for a negative length,
`TypeError` for a non-integer one. -/
theorem packLen_spec (f : Frame) (l : PyVal) :
    f.packLen l =
      match l.asInt? with
      | none => .error .TypeError
      | some n =>
        if n < 0 then .error .ValueError
        else if f.data < 256 ^ n.toNat then .ok (toBytesBE f.data n.toNat)
        else .error .OverflowError := by
  unfold Frame.packLen Frame.packLenNat; rfl

theorem packLen_roundtrip (f : Frame) (n : Nat) (h : f.data < 256 ^ n) :
    ∃ bs, f.packLen (.int n) = .ok bs ∧ bs.length = n ∧ ofBytesBE bs = f.data := by
  refine ⟨toBytesBE f.data n, ?_, toBytesBE_length _ _, ?_⟩
  · simp [Frame.packLen, Frame.packLenNat, PyVal.asInt?, h]
  · rw [ofBytesBE_toBytesBE, Nat.mod_eq_of_lt h]

/-- **Text rendering never fails and shows exactly the width and the packed bytes** — `str(frame)` is
`ClassName(width,[b0, b1, …])` with the most significant byte first, for every reachable frame. -/
theorem render_spec (cls : String) (f : Frame) (hf : Frame.Inv f) :
    ∃ bs, f.pack = .ok bs ∧ ofBytesBE bs = f.data ∧ bs.length = (f.bits + 7) / 8 ∧
      Frame.render cls f = .ok s!"{cls}({f.bits},{Frame.pyList bs})" := by
  obtain ⟨bs, h1, h2, _, h4⟩ := pack_spec f hf
  refine ⟨bs, h1, h4, h2, ?_⟩
  simp [Frame.render, Frame.asByteSequence, h1, bind, Except.bind, pure, Except.pure]

/-- Rebuilding a frame from its packed bytes gives an equal frame. -/
theorem pack_reconstructs (f : Frame) (hf : Frame.Inv f) :
    ∃ bs, f.pack = .ok bs ∧
      Frame.new (.int f.bits) (.ints (bs.map Int.ofNat)) = .ok f := by
  obtain ⟨bs, h1, _, h3, h4⟩ := pack_spec f hf
  refine ⟨bs, h1, ?_⟩
  have hall : (bs.map Int.ofNat).all (fun x => decide (0 ≤ x) && decide (x < 256)) = true := by
    simp only [List.all_map, List.all_eq_true, Function.comp, Int.ofNat_eq_natCast,
      Bool.and_eq_true, decide_eq_true_eq]
    exact fun b hb => ⟨by omega, by have := h3 b hb; omega⟩
  have hmap : (bs.map Int.ofNat).map Int.toNat = bs := by simp [Function.comp_def]
  rw [← new_of_inv hf, ← h4]
  simp only [Frame.new, hall, hmap, if_true, Int.ofNat_eq_natCast]

/-! ### the hypotheses are satisfiable: concrete non-trivial instances -/

example : Frame.Inv ⟨16, 0xA5C3⟩ := by unfold Frame.Inv; decide
example : (⟨16, 0xA5C3⟩ : Frame).run
    [.setItem (.slice (.int 12) (.int 9) .none) (.int 5), .setItem (.idx (.int 0)) (.str ""),
     .setItem (.slice (.int 3) (.int 20) .none) (.int 1), .getItem (.slice (.int 8) (.int 15) .none)]
    = (⟨16, 0xABC2⟩, [.ok .unit, .ok .unit, .error .IndexError, .ok (.num 0xAB)]) := by decide
example : (⟨12, 0xABC⟩ : Frame).pack = .ok [0x0A, 0xBC] := by decide

end DaliVerif.Props.C05
