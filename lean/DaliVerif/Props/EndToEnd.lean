import DaliVerif.Proofs.EncodeInv
import DaliVerif.Props.C02
import DaliVerif.Props.C18
/-!
# End to end: command object → frame → gateway packet → frame → the same command

Composition of three layers that are proved separately: the constructors'
frame assembly (C02/C03, `Cmd.encode`), the `Frame` invariant (C05) and the
drivers' wire encoders (C18).  For every legal command object and each of five
gateways (LUBA, SCI, Tridonic, hasseb HID, daliserver): the packet the driver
writes carries — in the field and alignment the gateway's format prescribes — a
frame that decodes (under the object's own device type) to the very object the
caller built.
-/
set_option linter.unusedSimpArgs false
namespace DaliVerif.Props.EndToEnd
open DaliVerif Spec

theorem wf_objOK (T : Cmd.Tables) (c : Cmd.Cmd) (h : Cmd.WF T c) : Cmd.ObjOK c := by
  cases c <;> simp only [Cmd.ObjOK] <;> simp only [Cmd.WF] at h <;> first | exact h.elim | trivial | exact h.1 | exact h.2.1

theorem frame_of_legal (T : Cmd.Tables) (hT : Cmd.TableOK2 T) (c : Cmd.Cmd) (hc : Cmd.WF T c)
    (f : Frame) (hf : Cmd.encode c = .ok f) :
    f.data < 2 ^ f.bits ∧ Cmd.decode T f.bits f.data (Cmd.dtOf c) (Cmd.mapFor c) = c := by
  have hi := Cmd.encode_inv c f (wf_objOK T c hc) hf
  obtain ⟨b, d, he, hd⟩ := Props.C02.decode_construct T hT c hc
  rw [hf] at he
  injection he with he
  subst he
  exact ⟨hi.2, hd⟩

/-- **LUBA**: the bit count in byte 4 and the big-endian data bytes from byte 6
of the packet written for a legal command decode to that command. -/
theorem luba_delivers (T : Cmd.Tables) (hT : Cmd.TableOK2 T) (c : Cmd.Cmd) (hc : Cmd.WF T c)
    (w : Wire.Cmd) (hw : Cmd.encode c = .ok w.frame) (p : List Nat) (h : Wire.Luba.encode w = .ok p) :
    Cmd.decode T (p.getD 4 0) (Frame.ofBytesBE ((p.drop 6).take (p.getD 4 0 / 8))) (Cmd.dtOf c) (Cmd.mapFor c) = c := by
  obtain ⟨hd, hdec⟩ := frame_of_legal T hT c hc w.frame hw
  obtain ⟨h1, h2, _⟩ := Props.C18.luba_frame_recoverable w p hd h
  rw [h2, h1]; exact hdec

/-- **SCI**: the data bytes from byte 1 (width from the mode nibble) decode to the command -/
theorem sci_delivers (T : Cmd.Tables) (hT : Cmd.TableOK2 T) (c : Cmd.Cmd) (hc : Cmd.WF T c)
    (w : Wire.Cmd) (hw : Cmd.encode c = .ok w.frame) (p : List Nat) (h : Wire.Sci.encode w = .ok p) :
    Cmd.decode T w.frame.bits (Frame.ofBytesBE ((p.drop 1).take (w.frame.bits / 8))) (Cmd.dtOf c) (Cmd.mapFor c) = c := by
  obtain ⟨hd, hdec⟩ := frame_of_legal T hT c hc w.frame hw
  obtain ⟨h1, _, _⟩ := Props.C18.sci_frame_recoverable w p hd h
  rw [h1]; exact hdec

/-- **Tridonic**: bytes 4..7 of the 64-byte report decode to the command -/
theorem tridonic_delivers (T : Cmd.Tables) (hT : Cmd.TableOK2 T) (c : Cmd.Cmd) (hc : Cmd.WF T c)
    (w : Wire.Cmd) (hw : Cmd.encode c = .ok w.frame) (seq : Nat) (p : List Nat)
    (h : Wire.Tridonic.encode seq w = .ok p) :
    Cmd.decode T w.frame.bits (Frame.ofBytesBE ((p.drop 4).take 4)) (Cmd.dtOf c) (Cmd.mapFor c) = c := by
  obtain ⟨hd, hdec⟩ := frame_of_legal T hT c hc w.frame hw
  obtain ⟨h1, _, _⟩ := Props.C18.tridonic_frame_recoverable seq w p hd h
  rw [h1]; exact hdec

/-- **hasseb (HID)**: every 2-byte write decodes to the command -/
theorem hidhasseb_delivers (T : Cmd.Tables) (hT : Cmd.TableOK2 T) (c : Cmd.Cmd) (hc : Cmd.WF T c)
    (w : Wire.Cmd) (hw : Cmd.encode c = .ok w.frame) (ws : List (List Nat))
    (h : Wire.HidHasseb.encode w = .ok ws) :
    ∀ x ∈ ws, Cmd.decode T w.frame.bits (Frame.ofBytesBE x) (Cmd.dtOf c) (Cmd.mapFor c) = c := by
  obtain ⟨_, hdec⟩ := frame_of_legal T hT c hc w.frame hw
  intro x hx
  rw [Props.C18.hidhasseb_frame_recoverable w ws h x hx]; exact hdec

/-- **daliserver**: bytes 2.. of each message decode to the command -/
theorem daliserver_delivers (T : Cmd.Tables) (hT : Cmd.TableOK2 T) (c : Cmd.Cmd) (hc : Cmd.WF T c)
    (w : Wire.Cmd) (hw : Cmd.encode c = .ok w.frame) (ws : List (List Nat))
    (h : Wire.DaliServer.encode w = .ok ws) :
    ∀ x ∈ ws, Cmd.decode T w.frame.bits (Frame.ofBytesBE (x.drop 2)) (Cmd.dtOf c) (Cmd.mapFor c) = c := by
  obtain ⟨hd, hdec⟩ := frame_of_legal T hT c hc w.frame hw
  intro x hx
  rw [Props.C18.daliserver_frame_recoverable w hd ws h x hx]; exact hdec

end DaliVerif.Props.EndToEnd
