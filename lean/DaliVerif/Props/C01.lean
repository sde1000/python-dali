import DaliVerif.Proofs.DecodeEvent
import DaliVerif.Gen.Commands
/-!
# C01 — every forward frame decodes, and the decoded command re-encodes to it

`Cmd.decode` / `Cmd.encode` are the models of `Command.from_frame` and of the
constructors (`Model/Decode.lean`, tied to the code by the exhaustive
correspondence suite `decode`); `Gen.tables` are the registries regenerated
from the current tree.
-/
namespace DaliVerif.Props.C01
open DaliVerif Cmd

/-- the tie to the current tree: the registries as the metaclasses populate them at import satisfy the table
condition; checked by the kernel against the tables regenerated on that run -/
theorem tables_ok : TableOK Gen.tables := by decide +kernel

/-- C01: decoding never fails and the decoded object's frame is the input — for every registry satisfying
`TableOK`, every frame, every claimed device type (implemented or not) and every instance-type map (absent,
empty, or resolving to any integer type): the constructor call that decoding performs does not raise, and the
frame it builds is the input.  Frames matching no known command come back as generic/unknown commands with the
same bits (they are branches of `decode`). -/
theorem encode_decode (T : Tables) (hT : TableOK T) (bits data dt : Nat) (m : Option InstMap)
    (hd : data < 2 ^ bits) :
    encode (decode T bits data dt m) = .ok ⟨bits, data⟩ := by
  have hF := hT.facts
  unfold decode
  simp only []
  split
  · rfl
  · rename_i subs hl
    have htop := hF.top _ (lookup_mem hl)
    simp only [topOK, List.all_eq_true] at htop
    cases hf : subs.findSome? _ with
    | none => rfl
    | some c =>
      simp only [Option.getD_some]
      obtain ⟨e, hmem, he⟩ := List.exists_of_findSome?_eq_some hf
      have hte := htop e hmem
      cases e with
      | gear =>
        simp only [beq_iff_eq] at hte; subst hte
        injection he with he; subst he
        exact gear_sound T hF data dt hd
      | device =>
        simp only [beq_iff_eq] at hte; subst hte
        exact device_sound T hF data hd c he
      | event =>
        simp only [beq_iff_eq] at hte; subst hte
        exact event_sound T hF data hd m c he
      | custom n => simp at hte

/-- the statement for the registries of the current tree -/
theorem encode_decode_gen (bits data dt : Nat) (m : Option InstMap) (hd : data < 2 ^ bits) :
    encode (decode Gen.tables bits data dt m) = .ok ⟨bits, data⟩ :=
  encode_decode Gen.tables tables_ok bits data dt m hd

structure Req where
  bits : Nat
  data : Nat
  dt : Nat
  map : Option InstMap

/-- purity: the model of decoding is a function of (frame, device type, map) and of the registries only, so this
holds by construction.  For the *code* the clause is validated by shuffled re-decoding and registry snapshots in
the harness, not proved. -/
theorem decode_pure (T : Tables) (h₁ h₂ : List Req) (r : Req) :
    ((h₁ ++ [r]).map fun q => decode T q.bits q.data q.dt q.map).getLast? =
    ((h₂ ++ [r]).map fun q => decode T q.bits q.data q.dt q.map).getLast? := by
  simp

/-! ### non-vacuity: concrete decodings against the current registries -/
example : className (decode Gen.tables 16 0x01E3 6 none) = "gear.led.SelectDimmingCurve" := by
  decide +kernel
example : encode (decode Gen.tables 24 ((5 <<< 17) ||| (1 <<< 15) ||| (3 <<< 10) ||| 700) 0
    (some [((5, 3), 4)])) = .ok ⟨24, (5 <<< 17) ||| (1 <<< 15) ||| (3 <<< 10) ||| 700⟩ := by
  decide +kernel

end DaliVerif.Props.C01
