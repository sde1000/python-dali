import DaliVerif.Proofs.WireEnc2
/-!
# C18 — bytes exchanged with each gateway follow that gateway's wire format

`Wire.<Driver>`: models of the drivers' encoders and decoders (tied to the code by the correspondence suite);
`Spec.Gateways`: the wire formats (independent / pinned as documented there).  `expect e fmt` is "the packet the
format prescribes, or exception `e` when the gateway cannot carry the width", so every `…_encode_conforms` states
conformance **and** refusal for every width at once; `…_refuses` spells the refusal out.
-/
namespace DaliVerif.Props.C18
open DaliVerif Wire Spec.Gateways Proofs.WireEnc Proofs.WireEnc2
open Gen.DriverConsts

/-- the constants of the tree are the ones the formats were written with -/
theorem gen_consts :
    tridonic_CMD_SEND = 0x12 ∧ tridonic_SEND_CTRL_SENDTWICE = 0x20 ∧ tridonic_SEND_MODE_DALI16 = 3 ∧
    tridonic_SEND_MODE_DALI24 = 6 ∧ tridonic_SEND_MODE_DALI8 = 2 ∧ tridonic_cmdtmpl_size = 64 ∧
    tridonic_resptmpl_size = 64 ∧ tridonic_cmdtmpl_format = ">4B4s3B53x" ∧ tridonic_resptmpl_format = ">BB4sHB55x" ∧
    tridonic_MODE_INFO = 0x01 ∧ tridonic_MODE_OBSERVE = 0x11 ∧ tridonic_MODE_RESPONSE = 0x12 ∧
    tridonic_RESPONSE_NO_FRAME = 0x71 ∧ tridonic_RESPONSE_FRAME_DALI8 = 0x72 ∧ tridonic_RESPONSE_FRAME_DALI16 = 0x73 ∧
    tridonic_RESPONSE_FRAME_DALI24 = 0x76 ∧ tridonic_RESPONSE_INFO = 0x77 ∧ tridonic_BUS_STATUS_FRAMING_ERROR = 3 ∧
    hidhasseb_INVALID_ANSWER = 3 ∧ hidhasseb_NO_ANSWER = 1 ∧ hidhasseb_NO_DATA_AVAILABLE = 0 ∧ hidhasseb_OK = 2 ∧
    hidhasseb_cmdtmpl_size = 2 ∧
    lubaCmd_ADD_DALI_FRAME_TO_TX_CMD = 0x32 ∧ luba_MAX_LEN = 24 ∧
    sci_CONTROL_ME_MASK = 0x80 ∧ sci_CONTROL_IDENTIFY_MASK = 0x40 ∧ sci_CONTROL_ECHO_MASK = 0x20 ∧
    sci_CONTROL_SEND_TWICE_MASK = 0x10 ∧ sci_CONTROL_MODE_MASK = 0x0F ∧
    sciCode_SEND_DALI_8 = 2 ∧ sciCode_SEND_DALI_16 = 3 ∧ sciCode_SEND_DALI2_24 = 8 ∧
    atxPrefixTable = [(8, 106), (16, 104), (24, 108), (25, 109)] ∧
    legacyTridonic_DALI_USB_DIRECTION_DALI = 0x11 ∧ legacyTridonic_DALI_USB_DIRECTION_USB = 0x12 ∧
    legacyTridonic_DALI_USB_TYPE_16BIT = 3 ∧ legacyTridonic_DALI_USB_TYPE_NO_RESPONSE = 0x71 ∧
    legacyTridonic_DALI_USB_TYPE_RESPONSE = 0x72 ∧ legacyTridonic_DALI_USB_TYPE_COMPLETE = 0x73 ∧
    legacyTridonic_DALI_USB_TYPE_BROADCAST = 0x74 ∧ legacyTridonic_first_sn = 1 ∧
    legacyHasseb_HASSEB_DALI_FRAME = 7 ∧ legacyHasseb_first_sn = 0 ∧ unipi_DA_OPT_TWICE = 8 := by decide

theorem tridonic_encode_conforms (seq : Nat) (c : Cmd) (hd : c.frame.data < 2 ^ c.frame.bits) :
    Tridonic.encode seq c =
      expect .UnsupportedFrameTypeError (tridonicSend seq c.frame.bits c.frame.data c.sendtwice) := by
  obtain ⟨⟨bits, data⟩, tw, q, s, dp⟩ := c
  replace hd : data < 2 ^ bits := hd
  by_cases h : bits = 16 ∨ bits = 24
  · have : data < 16777216 := by rcases h with rfl | rfl <;> omega
    have : data < 256 ^ 4 := by omega
    have : data / 16777216 % 256 = 0 := by omega
    rcases h with rfl | rfl
    · have : data / 65536 % 256 = 0 := by omega
      simp [Tridonic.encode, Tridonic.commandMode, Frame.packLenNat, Tridonic.pack, toBytesBE_four, tridonicSend,
        expect, zeros, tridonic_CMD_SEND, tridonic_SEND_CTRL_SENDTWICE, tridonic_SEND_MODE_DALI16, *]
    · simp [Tridonic.encode, Tridonic.commandMode, Frame.packLenNat, Tridonic.pack, toBytesBE_four, tridonicSend,
        expect, zeros, tridonic_CMD_SEND, tridonic_SEND_CTRL_SENDTWICE, tridonic_SEND_MODE_DALI24, *]
  · simp [Tridonic.encode, tridonicSend, expect, not_or.mp h]

theorem hidhasseb_encode_conforms (c : Cmd) (hd : c.frame.data < 2 ^ c.frame.bits) :
    HidHasseb.encode c = expect .UnsupportedFrameTypeError (hassebWrites c.frame.bits c.frame.data c.sendtwice) := by
  obtain ⟨⟨bits, data⟩, tw, q, s, dp⟩ := c
  simp only at hd
  by_cases h16 : bits = 16
  · subst h16
    have : data < 256 ^ 2 := by omega
    simp [HidHasseb.encode, Frame.packLenNat, this, toBytesBE_two, hassebWrites, expect]
  · simp [HidHasseb.encode, hassebWrites, expect, h16]

theorem luba_encode_conforms (c : Cmd) :
    Luba.encode c = expect .ValueError (lubaSend c.frame.bits c.frame.data (lubaPriorityRule c) c.sendtwice) := by
  have hm := or_twice (lubaPriorityRule_lt c) c.sendtwice
  rw [← luba_priority] at hm ⊢
  obtain ⟨⟨bits, data⟩, tw, q, s, dp⟩ := c
  by_cases h : bits = 16 ∨ bits = 24
  · rcases h with rfl | rfl <;>
      simp [Luba.encode, bytesOf16, bytesOf24, lubaSend, expect, hm, xorAll9, lubaCmd_ADD_DALI_FRAME_TO_TX_CMD]
  · simp [Luba.encode, lubaSend, expect, not_or.mp h]

theorem sci_encode_conforms (c : Cmd) :
    Sci.encode c = expect .ValueError (sciSend c.frame.bits c.frame.data c.sendtwice) := by
  obtain ⟨⟨bits, data⟩, tw, q, s, dp⟩ := c
  by_cases h : bits = 8 ∨ bits = 16 ∨ bits = 24
  · rcases h with rfl | rfl | rfl <;> cases tw <;>
      simp [Sci.encode, bytesOf8, bytesOf16, bytesOf24, sciSend, expect, xorAll4]
  · simp only [not_or] at h
    simp [Sci.encode, sciSend, expect, h]

theorem daliserver_encode_conforms (c : Cmd) :
    DaliServer.encode c = expect .UnsupportedFrameTypeError (daliserverSends c.frame.bits c.frame.data c.sendtwice) := by
  obtain ⟨⟨bits, data⟩, tw, q, s, dp⟩ := c
  by_cases h16 : bits = 16
  · subst h16
    simp [DaliServer.encode, bytesOf16, daliserverSends, expect]
  · simp [DaliServer.encode, daliserverSends, expect, h16]

theorem atx_encode_conforms (c : Cmd) :
    Atx.encode c = expect .KeyError (atxLine c.frame.bits c.frame.data c.sendtwice) := by
  obtain ⟨⟨bits, data⟩, tw, q, s, dp⟩ := c
  have hb : ∀ x : Nat, x % 256 < 256 := fun x => Nat.mod_lt _ (by decide)
  by_cases h : bits = 8 ∨ bits = 16 ∨ bits = 24 ∨ bits = 25
  · rcases h with rfl | rfl | rfl | rfl <;>
      simp [Atx.encode, atxPrefixTable, List.lookup, bytesOf8, bytesOf16, bytesOf24, bytesOf25, atxLine, expect,
        hexByte_eq _ (hb _)]
  · simp only [not_or] at h
    have hl : atxPrefixTable.lookup bits = none := by simp [atxPrefixTable, h]
    simp [Atx.encode, hl, atxLine, expect, h]

theorem ltridonic_encode_conforms (sn : Nat) (c : Cmd) :
    LegacyTridonic.encode sn c = expect .ValueError
      (if c.frame.bits = 16 then tridonicSend sn 16 c.frame.data c.sendtwice else none) := by
  obtain ⟨⟨bits, data⟩, tw, q, s, dp⟩ := c
  by_cases h16 : bits = 16
  · subst h16
    simp [LegacyTridonic.encode, bytesOf16, tridonicSend, expect, zeros, legacyTridonic_DALI_USB_DIRECTION_USB,
      legacyTridonic_DALI_USB_TYPE_16BIT]
  · simp [LegacyTridonic.encode, expect, h16]

/-- what the legacy Tridonic encoder accepts it sends as the 16-bit report of the Tridonic format -/
theorem ltridonic_format (sn : Nat) (c : Cmd) (p : List Nat) (h : LegacyTridonic.encode sn c = .ok p) :
    c.frame.bits = 16 ∧ tridonicSend sn 16 c.frame.data c.sendtwice = some p := by
  have := expect_ok (ltridonic_encode_conforms sn c ▸ h)
  split at this
  · exact ⟨‹_›, this⟩
  · cases this

theorem lhasseb_encode_conforms (sn : Nat) (c : Cmd) :
    LegacyHasseb.encode sn c = expect .ValueError
      ((legacyHassebPacket (LegacyHasseb.snNext sn) c.frame.bits c.frame.data c.sendtwice c.isQuery).map
        (fun p => (p, LegacyHasseb.snNext sn))) := by
  obtain ⟨⟨bits, data⟩, tw, q, s, dp⟩ := c
  by_cases h16 : bits = 16
  · subst h16
    simp [LegacyHasseb.encode, bytesOf16, legacyHassebPacket, expect, legacyHasseb_HASSEB_DALI_FRAME]
  · simp [LegacyHasseb.encode, legacyHassebPacket, expect, h16]

theorem lhasseb_format (sn : Nat) (c : Cmd) (p : List Nat) (sn' : Nat) (h : LegacyHasseb.encode sn c = .ok (p, sn')) :
    c.frame.bits = 16 ∧ legacyHassebPacket sn' 16 c.frame.data c.sendtwice c.isQuery = some p := by
  obtain ⟨p', hp, e⟩ := Option.map_eq_some_iff.mp (expect_ok (lhasseb_encode_conforms sn c ▸ h))
  cases e
  exact ⟨(of_one_width hp).1, (of_one_width hp).1 ▸ hp⟩

theorem unipi_encode_conforms (c : Cmd) :
    Unipi.encode c = expect .ValueError (unipiRegs c.frame.bits c.frame.data c.sendtwice) := by
  obtain ⟨⟨bits, data⟩, tw, q, s, dp⟩ := c
  have hb : ∀ x : Nat, x % 256 < 2 ^ 8 := fun x => Nat.mod_lt _ (by decide)
  have e : data / 256 % 256 * 2 ^ 8 + data % 256 = data % 65536 := by omega
  by_cases h : bits = 16 ∨ bits = 24
  · rcases h with rfl | rfl <;>
      simp only [Unipi.encode, bytesOf16, bytesOf24, unipiRegs, expect, unipi_DA_OPT_TWICE, List.getD_cons_zero,
        List.getD_cons_succ, shiftLeft_or _ (hb _), e] <;>
      cases tw <;> simp
  · simp [Unipi.encode, unipiRegs, expect, not_or.mp h]

/-- clause "refuses command frames of a length the gateway cannot carry" (K4: false of daliserver,
legacy hasseb, LUBA and SCI before the repairs) -/
theorem tridonic_refuses (seq : Nat) (c : Cmd) (hd : c.frame.data < 2 ^ c.frame.bits)
    (h : c.frame.bits ≠ 16 ∧ c.frame.bits ≠ 24) : Tridonic.encode seq c = .error .UnsupportedFrameTypeError := by
  rw [tridonic_encode_conforms seq c hd]; simp [tridonicSend, expect, h.1, h.2]

theorem hidhasseb_refuses (c : Cmd) (hd : c.frame.data < 2 ^ c.frame.bits) (h : c.frame.bits ≠ 16) :
    HidHasseb.encode c = .error .UnsupportedFrameTypeError := by
  rw [hidhasseb_encode_conforms c hd]; simp [hassebWrites, expect, h]

theorem luba_refuses (c : Cmd) (h : c.frame.bits ≠ 16 ∧ c.frame.bits ≠ 24) : Luba.encode c = .error .ValueError := by
  rw [luba_encode_conforms c]; simp [lubaSend, expect, h.1, h.2]

theorem sci_refuses (c : Cmd) (h : c.frame.bits ≠ 8 ∧ c.frame.bits ≠ 16 ∧ c.frame.bits ≠ 24) :
    Sci.encode c = .error .ValueError := by
  rw [sci_encode_conforms c]; simp [sciSend, expect, h.1, h.2.1, h.2.2]
example : Sci.encode ⟨⟨12, 0xABC⟩, false, false, false, false⟩ = .error .ValueError := by decide

theorem daliserver_refuses (c : Cmd) (h : c.frame.bits ≠ 16) :
    DaliServer.encode c = .error .UnsupportedFrameTypeError := by
  rw [daliserver_encode_conforms c]; simp [daliserverSends, expect, h]

theorem atx_refuses (c : Cmd) (h : c.frame.bits ≠ 8 ∧ c.frame.bits ≠ 16 ∧ c.frame.bits ≠ 24 ∧ c.frame.bits ≠ 25) :
    Atx.encode c = .error .KeyError := by
  rw [atx_encode_conforms c]; simp [atxLine, expect, h.1, h.2.1, h.2.2.1, h.2.2.2]

theorem ltridonic_refuses (sn : Nat) (c : Cmd) (h : c.frame.bits ≠ 16) :
    LegacyTridonic.encode sn c = .error .ValueError := by
  rw [ltridonic_encode_conforms sn c]; simp [expect, h]

theorem lhasseb_refuses (sn : Nat) (c : Cmd) (h : c.frame.bits ≠ 16) :
    LegacyHasseb.encode sn c = .error .ValueError := by
  rw [lhasseb_encode_conforms sn c]; simp [legacyHassebPacket, expect, h]

theorem unipi_refuses (c : Cmd) (h : c.frame.bits ≠ 16 ∧ c.frame.bits ≠ 24) : Unipi.encode c = .error .ValueError := by
  rw [unipi_encode_conforms c]; simp [unipiRegs, expect, h.1, h.2]

/-- clause "fixed length": the format's packets have the size of `_cmdtmpl` (a statement about a format reaches the
encoder through `…_encode_conforms`) -/
theorem tridonic_length_fixed (seq bits data : Nat) (tw : Bool) (p : List Nat)
    (h : tridonicSend seq bits data tw = some p) : p.length = tridonic_cmdtmpl_size := by
  obtain ⟨rfl, rfl⟩ | ⟨rfl, rfl⟩ := of_two_widths h <;> rfl

theorem luba_length_fixed (bits data prio : Nat) (tw : Bool) (p : List Nat)
    (h : lubaSend bits data prio tw = some p) : p.length = 11 := by
  obtain ⟨rfl, rfl⟩ | ⟨rfl, rfl⟩ := of_two_widths h <;> rfl

theorem sci_length_fixed (bits data : Nat) (tw : Bool) (p : List Nat)
    (h : sciSend bits data tw = some p) : p.length = sci_MAX_LEN := by
  obtain ⟨rfl, rfl⟩ | ⟨rfl, rfl⟩ | ⟨rfl, rfl⟩ := of_three_widths h <;> rfl

/-- hid.hasseb: every write is the 2-byte report of `_cmdtmpl` -/
theorem hidhasseb_length_fixed (c : Cmd) (ws : List (List Nat)) (h : HidHasseb.encode c = .ok ws) :
    ∀ w ∈ ws, w.length = hidhasseb_cmdtmpl_size := by
  intro w hw
  rw [(hidhasseb_writes c ws h).2 w hw, Frame.toBytesBE_length]; rfl

/-- daliserver: every message is the fixed 4 bytes `02 00 addr cmd` -/
theorem daliserver_length_fixed (c : Cmd) (ws : List (List Nat)) (h : DaliServer.encode c = .ok ws) :
    ∀ w ∈ ws, w.length = 4 := by
  obtain ⟨_, rfl⟩ := of_one_width (expect_ok (daliserver_encode_conforms c ▸ h))
  intro w hw
  rw [List.eq_of_mem_replicate hw]; rfl

theorem ltridonic_length_fixed (sn : Nat) (c : Cmd) (p : List Nat) (h : LegacyTridonic.encode sn c = .ok p) :
    p.length = 64 :=
  tridonic_length_fixed _ _ _ _ _ (ltridonic_format sn c p h).2

theorem lhasseb_length_fixed (sn : Nat) (c : Cmd) (p : List Nat) (sn' : Nat)
    (h : LegacyHasseb.encode sn c = .ok (p, sn')) : p.length = 10 := by
  obtain ⟨_, rfl⟩ := of_one_width (lhasseb_format sn c p sn' h).2
  rfl

/-- ATX hat: one letter, **exactly two hex digits per frame byte**, newline (`nbytes bits` = ⌈bits/8⌉) -/
theorem atx_length_exact (c : Cmd) (p : List Nat) (h : Atx.encode c = .ok p) :
    p.length = 1 + 2 * nbytes c.frame.bits + 1 := by
  obtain ⟨pfx, rfl, _⟩ := atx_shape c p h
  simp [hexText_length, bytesOf_length]; omega

/-- the explicit xor chain in the LUBA format is a valid checksum -/
theorem luba_format_checksum_valid (bits data prio : Nat) (tw : Bool) (p : List Nat)
    (h : lubaSend bits data prio tw = some p) : lubaCheck p = true := by
  obtain ⟨rfl, rfl⟩ | ⟨rfl, rfl⟩ := of_two_widths h <;> rw [← xorAll9] <;>
    exact lubaCheck_of_body [_, _, _, _, _, _, _, _, _] (by rfl)

/-- the explicit xor chain in the SCI format is a valid checksum -/
theorem sci_format_checksum_valid (bits data : Nat) (tw : Bool) (p : List Nat)
    (h : sciSend bits data tw = some p) : sciCheck p = true := by
  obtain ⟨rfl, rfl⟩ | ⟨rfl, rfl⟩ | ⟨rfl, rfl⟩ := of_three_widths h <;> rw [← xorAll4] <;>
    exact sciCheck_of_body [_, _, _, _] (by rfl)

/-- clause "a valid checksum": every packet the LUBA encoder hands to the transport passes the gateway's check -/
theorem luba_checksum_valid (c : Cmd) (p : List Nat) (h : Luba.encode c = .ok p) : lubaCheck p = true :=
  luba_format_checksum_valid _ _ _ _ _ (expect_ok (luba_encode_conforms c ▸ h))
example : Luba.encode ⟨⟨16, 0xFE80⟩, true, false, false, false⟩ =
    .ok [0x59, 0x32, 7, 0, 16, 0x85, 0xFE, 0x80, 0, 0, 0xDE] := by decide
example : lubaCheck [0x59, 0x32, 7, 0, 16, 0x85, 0xFE, 0x80, 0, 0, 0xDE] = true := by decide
example : lubaCheck [0x59, 0x32, 7, 0, 16, 0x85, 0xFE, 0x80, 0, 0, 0xDF] = false := by decide

theorem sci_checksum_valid (c : Cmd) (p : List Nat) (h : Sci.encode c = .ok p) : sciCheck p = true :=
  sci_format_checksum_valid _ _ _ _ (expect_ok (sci_encode_conforms c ▸ h))
example : sciCheck [0xA3, 0xFE, 0x80, 0, 0xDD] = true := by decide

/-- clause "the send-twice flag exactly when the command requires it" -/
theorem tridonic_twice_iff (seq bits data : Nat) (tw : Bool) (p : List Nat)
    (h : tridonicSend seq bits data tw = some p) : tridonicTwiceBit p = tw := by
  obtain ⟨rfl, rfl⟩ | ⟨rfl, rfl⟩ := of_two_widths h <;> cases tw <;> simp [tridonicTwiceBit]

theorem hidhasseb_twice_iff (bits data : Nat) (tw : Bool) (ws : List (List Nat))
    (h : hassebWrites bits data tw = some ws) : ws.length = (if tw then 2 else 1) := by
  obtain ⟨_, rfl⟩ := of_one_width h
  exact List.length_replicate ..

theorem daliserver_twice_iff (bits data : Nat) (tw : Bool) (ws : List (List Nat))
    (h : daliserverSends bits data tw = some ws) : ws.length = (if tw then 2 else 1) := by
  obtain ⟨_, rfl⟩ := of_one_width h
  exact List.length_replicate ..

/-- LUBA format, any priority that fits the priority field -/
theorem luba_format_twice_iff (bits data prio : Nat) (tw : Bool) (p : List Nat) (hp : prio < 128)
    (h : lubaSend bits data prio tw = some p) : lubaTwiceBit p = tw := by
  obtain ⟨rfl, rfl⟩ | ⟨rfl, rfl⟩ := of_two_widths h <;> cases tw <;> simp [lubaTwiceBit, and128 prio hp]

theorem luba_twice_iff (c : Cmd) (p : List Nat) (h : Luba.encode c = .ok p) : lubaTwiceBit p = c.sendtwice :=
  luba_format_twice_iff _ _ _ _ _ (lubaPriorityRule_lt c) (expect_ok (luba_encode_conforms c ▸ h))

theorem sci_format_twice_iff (bits data : Nat) (tw : Bool) (p : List Nat)
    (h : sciSend bits data tw = some p) : sciTwiceBit p = tw := by
  obtain ⟨rfl, rfl⟩ | ⟨rfl, rfl⟩ | ⟨rfl, rfl⟩ := of_three_widths h <;> cases tw <;> simp [sciTwiceBit]

theorem sci_twice_iff (c : Cmd) (p : List Nat) (h : Sci.encode c = .ok p) : sciTwiceBit p = c.sendtwice :=
  sci_format_twice_iff _ _ _ _ (expect_ok (sci_encode_conforms c ▸ h))

/-- ATX hat: the line starts with the send-twice letter `t` exactly for a send-twice 16-bit command (the hat's table
has no send-twice letter for the other widths: `SyncDaliHatDriver.send` writes such a command once, as `l…`) -/
theorem atx_twice_iff (c : Cmd) (p : List Nat) (h : Atx.encode c = .ok p) :
    p.head? = some 116 ↔ (c.sendtwice = true ∧ c.frame.bits = 16) := by
  obtain ⟨pfx, rfl, ht⟩ := atx_shape c p h
  simpa using ht
example : Atx.encode ⟨⟨16, 0xFE80⟩, true, false, false, false⟩ = .ok [116, 70, 69, 56, 48, 10] := by decide
example : Atx.encode ⟨⟨24, 0xC1FE80⟩, true, false, false, false⟩ = .ok [108, 67, 49, 70, 69, 56, 48, 10] := by decide

/-- legacy Tridonic: control bit 0x20 (false of the tree before `cf065f7`, which ignored `sendtwice`) -/
theorem ltridonic_twice_iff (sn : Nat) (c : Cmd) (p : List Nat) (h : LegacyTridonic.encode sn c = .ok p) :
    tridonicTwiceBit p = c.sendtwice :=
  tridonic_twice_iff _ _ _ _ _ (ltridonic_format sn c p h).2

/-- legacy hasseb: byte 6 is the delay in ms before the repetition, 0 = sent once -/
theorem lhasseb_twice_iff (sn : Nat) (c : Cmd) (p : List Nat) (sn' : Nat) (h : LegacyHasseb.encode sn c = .ok (p, sn')) :
    p.getD 6 0 = (if c.sendtwice then 10 else 0) := by
  obtain ⟨_, rfl⟩ := of_one_width (lhasseb_format sn c p sn' h).2
  rfl

/-- UniPi: `DA_OPT_TWICE` in the option byte (high byte of the first register) -/
theorem unipi_twice_iff (c : Cmd) (r0 r1 : Nat) (h : Unipi.encode c = .ok (r0, r1)) :
    ((r0 >>> 8) &&& unipi_DA_OPT_TWICE != 0) = c.sendtwice := by
  obtain ⟨_, e⟩ | ⟨_, e⟩ := of_two_widths (expect_ok (unipi_encode_conforms c ▸ h)) <;>
    obtain ⟨rfl, rfl⟩ := Prod.mk.inj e
  · cases c.sendtwice <;> simp [unipi_DA_OPT_TWICE, Nat.shiftRight_eq_div_pow]
  · rw [shiftRight_field _ (Nat.mod_lt _ (by decide))]
    cases c.sendtwice <;> simp [unipi_DA_OPT_TWICE]

theorem tridonic_seq_range (start : Nat) (h : 1 ≤ start ∧ start ≤ 255) (n : Nat) :
    1 ≤ Tridonic.seqNth start n ∧ Tridonic.seqNth start n ≤ 255 := by
  induction n with
  | zero => exact h
  | succ n ih => simp only [Tridonic.seqNth, Tridonic.seqNext]; split <;> omega

theorem tridonic_seq_no_immediate_repeat (start : Nat) (h : 1 ≤ start ∧ start ≤ 255) (n : Nat) :
    Tridonic.seqNth start (n + 1) ≠ Tridonic.seqNth start n := by
  have := tridonic_seq_range start h n
  simp only [Tridonic.seqNth, Tridonic.seqNext]; split <;> omega

theorem ltridonic_seq_range (n : Nat) : 1 ≤ LegacyTridonic.snNth n ∧ LegacyTridonic.snNth n ≤ 255 := by
  show 1 ≤ LegacyTridonic.snState n ∧ LegacyTridonic.snState n ≤ 255
  induction n with
  | zero => simp [LegacyTridonic.snState, legacyTridonic_first_sn]
  | succ n ih => simp only [LegacyTridonic.snState, LegacyTridonic.getSn]; split <;> omega

/-- false of the code before the F10 repair (…, 255, 1, 1, 2) -/
theorem ltridonic_seq_no_immediate_repeat (n : Nat) : LegacyTridonic.snNth (n + 1) ≠ LegacyTridonic.snNth n := by
  have : 1 ≤ LegacyTridonic.snState n ∧ LegacyTridonic.snState n ≤ 255 := ltridonic_seq_range n
  simp only [LegacyTridonic.snNth, LegacyTridonic.snState, LegacyTridonic.getSn]; split <;> omega
example : LegacyTridonic.getSn 255 = (255, 1) ∧ LegacyTridonic.getSn 1 = (1, 2) := by decide

theorem lhasseb_seq_range (n : Nat) : 1 ≤ LegacyHasseb.snNth n ∧ LegacyHasseb.snNth n ≤ 255 := by
  induction n with
  | zero => simp [LegacyHasseb.snNth, LegacyHasseb.snNext, legacyHasseb_first_sn]
  | succ n ih => simp only [LegacyHasseb.snNth, LegacyHasseb.snNext]; split <;> omega

theorem lhasseb_seq_no_immediate_repeat (n : Nat) : LegacyHasseb.snNth (n + 1) ≠ LegacyHasseb.snNth n := by
  have := lhasseb_seq_range n
  simp only [LegacyHasseb.snNth, LegacyHasseb.snNext]; split <;> omega

theorem hidhasseb_decode_wellformed (status byte : Nat) :
    HidHasseb.decode status byte = hassebMeaning status byte := by
  simp only [HidHasseb.decode, hassebMeaning, hidhasseb_NO_DATA_AVAILABLE, hidhasseb_NO_ANSWER, hidhasseb_OK,
    hidhasseb_INVALID_ANSWER, beq_iff_eq]

theorem daliserver_decode_wellformed (q : Bool) (status rval : Nat) :
    DaliServer.decode q status rval = daliserverMeaning q status rval := by
  cases q <;> simp [DaliServer.decode, daliserverMeaning]

/-- a backward-frame register pair carries an 8-bit value, a forward-frame pair a 16-bit one -/
theorem unipi_decode_wellformed (r0 r1 : Nat) (h : (r0 = 0x100 → r1 < 256) ∧ (r0 = 0x200 → r1 < 65536)) :
    Unipi.decode r0 r1 = unipiMeaning r0 r1 := by
  have e : Frame.ofBytesBE [r1 >>> 8, r1 &&& 0xFF] = r1 := by
    rw [ofBytesBE_pair, Nat.shiftRight_eq_div_pow r1 8, Nat.and_two_pow_sub_one_eq_mod r1 8]
    exact Nat.div_add_mod' r1 256
  unfold Unipi.decode unipiMeaning
  rw [e]
  by_cases h1 : r0 = 0x100
  · simp [h1, h.1 h1]
  · by_cases h2 : r0 = 0x200
    · have : r1 >>> 8 < 256 := by have := h.2 h2; omega
      simp [h2, this]
    · simp [h1, h2]

/-- `_read_returning_frame`: the registers are taken as a new reply **iff** the counter differs from the sample -/
theorem unipi_reply_detected_iff (c1 : Nat) (p : Unipi.Poll) :
    Unipi.readReturning c1 p = (if c1 = p.counter then none else some (Unipi.decode p.r0 p.r1)) := by
  by_cases h : c1 = p.counter <;> simp [Unipi.readReturning, h]

/-- for all counters `c1 ≠ c2` — in any order, in particular `c1 = 0xFFFF`,
`c2 = 0` when the 16-bit register wraps — the reply is taken and decoded.  (Seeded change C18-D, `counter2 > counter1`,
contradicts this for every `c2 < c1`.) -/
theorem unipi_reply_detected_across_wrap (c1 c2 r0 r1 fe : Nat) (h : c1 ≠ c2) :
    Unipi.readReturning c1 ⟨c2, r0, r1, fe⟩ = some (Unipi.decode r0 r1) := by
  simp [Unipi.readReturning, h]
example : Unipi.readReturning 0xFFFF ⟨0, 0x100, 0x44, 0⟩ = some (.backward 0x44) := by decide

/-- the polling loop takes a backward frame at any of its iterations: `k < m` polls showing the sampled counter (stale
registers of any content), then one with any other counter and a backward frame -/
theorem unipi_poll_reply_any_position (cmp : Bool) (c1 fe1 c2 v fe t d : Nat) (hne : c1 ≠ c2) (hv : v < 256)
    (rest : List Unipi.Poll) : ∀ (k m : Nat), k < m →
    Unipi.pollLoop cmp c1 fe1 ((List.replicate k (⟨c1, t, d, fe1⟩ : Unipi.Poll) ++ ⟨c2, 0x100, v, fe⟩ :: rest).take m)
      = .response (some v) := by
  intro k
  induction k with
  | zero =>
    intro m hm
    obtain ⟨m', rfl⟩ : ∃ m', m = m' + 1 := ⟨m - 1, by omega⟩
    simp [Unipi.pollLoop, Unipi.readReturning, hne, Unipi.decode, hv]
  | succ k ih =>
    intro m hm
    obtain ⟨m', rfl⟩ : ∃ m', m = m' + 1 := ⟨m - 1, by omega⟩
    simp only [List.replicate_succ, List.cons_append, List.take_succ_cons, Unipi.pollLoop, Unipi.readReturning]
    simp [ih m' (by omega)]

/-- against the gateway's registers (`unipiPolls`), for every value of the hidden receive counter (the wrap included),
every stale register content, every poll `k < 6` before which the backward frame `v` arrives, `send` returns what the
exchange denotes, `command.response(BackwardFrame(v))` -/
theorem unipi_answered_query_returns_value (g : UnipiRx) (hc : g.counter < 65536) (k v fe : Nat) (hk : k < 6)
    (hv : v < 256) (cmp : Bool) :
    Unipi.recv true cmp g.counter fe (unipiPolls fe none g [(k, 0x100, v)] 0 6)
      = unipiExchange true cmp [(k, 0x100, v)] none
    ∧ unipiExchange true cmp [(k, 0x100, v)] none = .response (some v) := by
  have he : unipiExchange true cmp [(k, 0x100, v)] none = .response (some v) := by
    cases cmp <;> simp [unipiExchange, hk]
  refine ⟨he ▸ ?_, he⟩
  show Unipi.pollLoop cmp g.counter fe (List.take 6 _) = _
  rw [List.take_of_length_le (by rw [unipiPolls_length]; exact Nat.le_refl 6)]
  exact pollLoop_unipiPolls cmp fe k v hv g 6 0 (by omega) (by omega)

/-- an unanswered query is "no answer" whatever the (stale) registers hold -/
theorem unipi_unanswered_query (g : UnipiRx) (fe : Nat) (cmp : Bool) :
    Unipi.recv true cmp g.counter fe (unipiPolls fe none g [] 0 6) = unipiExchange true cmp [] none
    ∧ unipiExchange true cmp [] none = .response none := by
  simp [unipiPolls, unipiExchange, Unipi.recv, Unipi.nPolls, Unipi.pollLoop, Unipi.readReturning]

theorem unipi_no_reply_expected (cmp : Bool) (c1 fe1 : Nat) (polls : List Unipi.Poll) (ev : List (Nat × Nat × Nat))
    (feAt : Option Nat) :
    Unipi.recv false cmp c1 fe1 polls = unipiExchange false cmp ev feAt := by
  simp [Unipi.recv, unipiExchange]

theorem tridonic_decode_wellformed (p : List Nat) (h : tridonicWellFormed p) : Tridonic.decode p = tridonicMeaning p := by
  obtain ⟨hl, hb, h8⟩ := h
  rcases p with _ | ⟨a, _ | ⟨b, _ | ⟨c, _ | ⟨d, _ | ⟨e, _ | ⟨f, r⟩⟩⟩⟩⟩⟩ <;> simp at hl
  have hf : f < 256 := hb f (by simp)
  simp only [Tridonic.decode, tridonicMeaning, List.getD_cons_zero, List.getD_cons_succ, List.drop_succ_cons,
    List.drop_zero, List.take_succ_cons, List.take_zero, tridonic_RESPONSE_FRAME_DALI16, tridonic_RESPONSE_FRAME_DALI24,
    tridonic_RESPONSE_FRAME_DALI8, tridonic_RESPONSE_INFO, tridonic_BUS_STATUS_FRAMING_ERROR, tridonic_RESPONSE_NO_FRAME,
    Bool.or_eq_true, Bool.and_eq_true, beq_iff_eq] at h8 ⊢
  by_cases h72 : b = 0x72
  · obtain ⟨rfl, rfl, rfl⟩ := h8 h72
    simp [h72, hf, Frame.ofBytesBE]
  · simp [h72]
example : tridonicWellFormed ([0x12, 0x72, 0, 0, 0, 0x55] ++ zeros 58) ∧
    Tridonic.decode ([0x12, 0x72, 0, 0, 0, 0x55] ++ zeros 58) = .backward 0x55 := by
  refine ⟨⟨by decide, by decide, by decide⟩, by decide⟩

/-- Tridonic receive loop (`_send_raw`): the gateway sends, for the command's sequence number, one transmission
confirmation per transmission (two for a send-twice command) and one answering report (backward frame / framing error /
"no frame"), **in any order**, possibly interleaved with reports that mean nothing.  Then the loop returns the
answering report's meaning for a query and nothing for any other command. -/
theorem tridonic_receive_wellformed (c : Cmd) (msgs : List (List Nat)) (r : Meaning)
    (hwf : ∀ m ∈ msgs, tridonicWellFormed m)
    (hack : (msgs.map tridonicMeaning).count .ack = (if c.sendtwice then 2 else 1))
    (hresp : (msgs.map tridonicMeaning).filter isResp = [r]) :
    Tridonic.receive c msgs = some (if c.isQuery then r else .none) :=
  (collect_spec c.isQuery msgs (fun m hm => tridonic_decode_wellformed m (hwf m hm)) _ none).2 r
    (by rw [hack]; split <;> rfl) hresp
/-- response before the confirmations, send-twice query -/
example : Tridonic.receive ⟨⟨16, 0xFF90⟩, true, true, true, false⟩
    [[0x12, 0x72, 0, 0, 0, 0x55] ++ zeros 58, [0x12, 0x73, 0, 0, 0xFF, 0x90] ++ zeros 58,
     [0x12, 0x73, 0, 0, 0xFF, 0x90] ++ zeros 58] = some (.backward 0x55) := by decide

/-- … and it keeps waiting (`Option.none`) as long as a confirmation or the answering report is missing -/
theorem tridonic_receive_waits (c : Cmd) (msgs : List (List Nat)) (hwf : ∀ m ∈ msgs, tridonicWellFormed m)
    (h : (msgs.map tridonicMeaning).count .ack < (if c.sendtwice then 2 else 1) ∨
      (msgs.map tridonicMeaning).filter isResp = []) :
    Tridonic.receive c msgs = Option.none :=
  (collect_spec c.isQuery msgs (fun m hm => tridonic_decode_wellformed m (hwf m hm)) _ none).1
    (h.imp (by split <;> omega) .inr)

theorem ltridonic_decode_wellformed (p : List Nat) : LegacyTridonic.decode p = legacyTridonicMeaning p := by
  simp only [LegacyTridonic.decode, legacyTridonicMeaning, legacyTridonic_DALI_USB_DIRECTION_DALI,
    legacyTridonic_DALI_USB_DIRECTION_USB, legacyTridonic_DALI_USB_TYPE_COMPLETE, legacyTridonic_DALI_USB_TYPE_BROADCAST,
    legacyTridonic_DALI_USB_TYPE_NO_RESPONSE, legacyTridonic_DALI_USB_TYPE_RESPONSE, beq_iff_eq, ofBytesBE_pair]
  grind

theorem lhasseb_decode_wellformed (p : List Nat) : LegacyHasseb.decode p = legacyHassebMeaning p := by
  simp only [LegacyHasseb.decode, legacyHassebMeaning, legacyHasseb_HASSEB_DRIVER_NO_DATA_AVAILABLE,
    legacyHasseb_HASSEB_DALI_FRAME, legacyHasseb_HASSEB_DRIVER_NO_ANSWER, legacyHasseb_HASSEB_DRIVER_OK,
    legacyHasseb_HASSEB_DRIVER_INVALID_ANSWER, legacyHasseb_HASSEB_DRIVER_TOO_EARLY,
    legacyHasseb_HASSEB_DRIVER_SNIFFER_BYTE, legacyHasseb_HASSEB_DRIVER_SNIFFER_BYTE_ERROR, beq_iff_eq,
    Bool.and_eq_true]

/-- ATX hat: a well-formed answer `<letter><hex><hex>` with or without the newline (digits in either case) -/
theorem atx_decode_wellformed (letter c1 c2 hi lo : Nat) (h1 : Atx.hexVal? c1 = some hi) (h2 : Atx.hexVal? c2 = some lo) :
    Atx.decode [letter, c1, c2, 10] = atxMeaning letter hi lo ∧ Atx.decode [letter, c1, c2] = atxMeaning letter hi lo := by
  by_cases h : letter = 74
  · subst h; simpa [atxMeaning] using atx_decode_J c1 c2 hi lo h1 h2
  · simp [atx_decode_other _ _ h, atxMeaning, h]
example : Atx.decode [74, 102, 69, 10] = .backward 0xFE := by decide

/-- the hex text the format writes for a byte is such a pair of digits (non-vacuity of the hypotheses above) -/
theorem atx_hexByte_digits : ∀ b, b < 256 → (hexByte b).mapM Atx.hexVal? = some [b / 16, b % 16] := by
  intro b hb
  rw [hexByte_eq b hb]
  exact hexText_mapM [b] (by simpa using hb)

/-- every frame of every width is recovered from `as_byte_sequence` read big-endian -/
theorem frame_bytes_recoverable (f : Frame) (h : f.data < 2 ^ f.bits) :
    Frame.ofBytesBE (bytesOf f) = f.data ∧ (bytesOf f).length = nbytes f.bits ∧ ∀ b ∈ bytesOf f, b < 256 :=
  ⟨ofBytesBE_bytesOf f h, bytesOf_length f, bytesOf_lt f⟩

/-- clause "frame bits in the prescribed field and alignment".  Tridonic: bytes 4..7 (big-endian, right-aligned) are the
frame, byte 3 the mode code, byte 1 the sequence number -/
theorem tridonic_frame_recoverable (seq : Nat) (c : Cmd) (p : List Nat) (hd : c.frame.data < 2 ^ c.frame.bits)
    (h : Tridonic.encode seq c = .ok p) :
    Frame.ofBytesBE ((p.drop 4).take 4) = c.frame.data ∧ p.getD 1 0 = seq ∧
      p.getD 3 0 = (if c.frame.bits = 16 then tridonic_SEND_MODE_DALI16 else tridonic_SEND_MODE_DALI24) := by
  have := tridonicSend_fields (expect_ok (tridonic_encode_conforms seq c hd ▸ h)) hd
  simpa [tridonic_SEND_MODE_DALI16, tridonic_SEND_MODE_DALI24] using this

theorem hidhasseb_frame_recoverable (c : Cmd) (ws : List (List Nat)) (h : HidHasseb.encode c = .ok ws) :
    ∀ w ∈ ws, Frame.ofBytesBE w = c.frame.data := by
  intro w hw
  obtain ⟨hlt, hws⟩ := hidhasseb_writes c ws h
  rw [hws w hw, Frame.ofBytesBE_toBytesBE]
  exact Nat.mod_eq_of_lt hlt

/-- LUBA format: bit count in byte 4, frame big-endian from the first of the four data bytes, the rest zero -/
theorem luba_format_frame_recoverable (bits data prio : Nat) (tw : Bool) (p : List Nat) (hd : data < 2 ^ bits)
    (h : lubaSend bits data prio tw = some p) :
    Frame.ofBytesBE ((p.drop 6).take (bits / 8)) = data ∧ p.getD 4 0 = bits ∧
      (p.drop (6 + bits / 8)).take (4 - bits / 8) = zeros (4 - bits / 8) := by
  obtain ⟨rfl, rfl⟩ | ⟨rfl, rfl⟩ := of_two_widths h <;> refine ⟨?_, rfl, rfl⟩
  · exact ofBytesBE_two hd
  · exact ofBytesBE_three hd

theorem luba_frame_recoverable (c : Cmd) (p : List Nat) (hd : c.frame.data < 2 ^ c.frame.bits)
    (h : Luba.encode c = .ok p) :
    Frame.ofBytesBE ((p.drop 6).take (c.frame.bits / 8)) = c.frame.data ∧ p.getD 4 0 = c.frame.bits ∧
      (p.drop (6 + c.frame.bits / 8)).take (4 - c.frame.bits / 8) = zeros (4 - c.frame.bits / 8) :=
  luba_format_frame_recoverable _ _ _ _ _ hd (expect_ok (luba_encode_conforms c ▸ h))

/-- SCI format: mode nibble = width code 2/3/8, frame big-endian from the first data byte (pinned alignment), rest zero -/
theorem sci_format_frame_recoverable (bits data : Nat) (tw : Bool) (p : List Nat) (hd : data < 2 ^ bits)
    (h : sciSend bits data tw = some p) :
    Frame.ofBytesBE ((p.drop 1).take (bits / 8)) = data ∧
      p.getD 0 0 &&& 0x0F = (if bits = 8 then 2 else if bits = 16 then 3 else 8) ∧
      (p.drop (1 + bits / 8)).take (3 - bits / 8) = zeros (3 - bits / 8) := by
  obtain ⟨rfl, rfl⟩ | ⟨rfl, rfl⟩ | ⟨rfl, rfl⟩ := of_three_widths h <;> refine ⟨?_, by cases tw <;> simp, rfl⟩
  · exact ofBytesBE_one hd
  · exact ofBytesBE_two hd
  · exact ofBytesBE_three hd

theorem sci_frame_recoverable (c : Cmd) (p : List Nat) (hd : c.frame.data < 2 ^ c.frame.bits)
    (h : Sci.encode c = .ok p) :
    Frame.ofBytesBE ((p.drop 1).take (c.frame.bits / 8)) = c.frame.data ∧
      p.getD 0 0 &&& sci_CONTROL_MODE_MASK =
        (if c.frame.bits = 8 then sciCode_SEND_DALI_8 else if c.frame.bits = 16 then sciCode_SEND_DALI_16
         else sciCode_SEND_DALI2_24) ∧
      (p.drop (1 + c.frame.bits / 8)).take (3 - c.frame.bits / 8) = zeros (3 - c.frame.bits / 8) :=
  sci_format_frame_recoverable _ _ _ _ hd (expect_ok (sci_encode_conforms c ▸ h))

theorem daliserver_frame_recoverable (c : Cmd) (hd : c.frame.data < 2 ^ c.frame.bits) (ws : List (List Nat))
    (h : DaliServer.encode c = .ok ws) : ∀ w ∈ ws, Frame.ofBytesBE (w.drop 2) = c.frame.data := by
  obtain ⟨hb, rfl⟩ := of_one_width (expect_ok (daliserver_encode_conforms c ▸ h))
  intro w hw
  rw [List.eq_of_mem_replicate hw]
  exact ofBytesBE_two (hb ▸ hd)

/-- ATX hat: between the letter and the newline stand exactly two hex digits per frame byte whose value is the frame -/
theorem atx_frame_recoverable (c : Cmd) (p : List Nat) (hd : c.frame.data < 2 ^ c.frame.bits)
    (h : Atx.encode c = .ok p) :
    ∃ ds, (p.drop 1).dropLast.mapM Atx.hexVal? = some ds ∧ ds.length = 2 * nbytes c.frame.bits ∧
      ds.foldl (fun a d => a * 16 + d) 0 = c.frame.data ∧ p.getLast? = some 10 := by
  obtain ⟨pfx, rfl, _⟩ := atx_shape c p h
  refine ⟨nibbles (bytesOf c.frame), ?_, ?_, ?_, ?_⟩
  · have : (([pfx] ++ hexText (bytesOf c.frame) ++ [10]).drop 1).dropLast = hexText (bytesOf c.frame) := by
      simp
    rw [this]; exact hexText_mapM _ (bytesOf_lt _)
  · rw [nibbles_length, bytesOf_length]
  · rw [nibbles_foldl]; exact ofBytesBE_bytesOf c.frame hd
  · exact List.getLast?_concat

theorem ltridonic_frame_recoverable (sn : Nat) (c : Cmd) (p : List Nat) (hd : c.frame.data < 2 ^ c.frame.bits)
    (h : LegacyTridonic.encode sn c = .ok p) :
    Frame.ofBytesBE ((p.drop 4).take 4) = c.frame.data ∧ p.getD 1 0 = sn := by
  obtain ⟨hb, hp⟩ := ltridonic_format sn c p h
  have := tridonicSend_fields hp (hb ▸ hd)
  exact ⟨this.1, this.2.1⟩

/-- legacy hasseb: bytes 7..8, bit count in byte 3, sequence number in byte 2 -/
theorem lhasseb_frame_recoverable (sn : Nat) (c : Cmd) (p : List Nat) (sn' : Nat) (hd : c.frame.data < 2 ^ c.frame.bits)
    (h : LegacyHasseb.encode sn c = .ok (p, sn')) :
    Frame.ofBytesBE ((p.drop 7).take 2) = c.frame.data ∧ p.getD 3 0 = c.frame.bits ∧ p.getD 2 0 = sn' := by
  obtain ⟨hb, hp⟩ := lhasseb_format sn c p sn' h
  obtain ⟨_, rfl⟩ := of_one_width hp
  exact ⟨ofBytesBE_two (hb ▸ hd), hb.symm, rfl⟩

/-- UniPi: 16 low bits in the second register, bits 16..23 of a 24-bit frame in the low byte of the first; width code
2/3 in the option byte -/
theorem unipi_frame_recoverable (c : Cmd) (r0 r1 : Nat) (hd : c.frame.data < 2 ^ c.frame.bits)
    (h : Unipi.encode c = .ok (r0, r1)) :
    (if c.frame.bits = 24 then r0 % 256 else 0) * 65536 + r1 = c.frame.data ∧ r1 < 65536 ∧
      (r0 >>> 8) % 8 = (if c.frame.bits = 16 then 2 else 3) := by
  obtain ⟨hb, e⟩ | ⟨hb, e⟩ := of_two_widths (expect_ok (unipi_encode_conforms c ▸ h)) <;>
    obtain ⟨rfl, rfl⟩ := Prod.mk.inj e <;> rw [hb] at hd ⊢
  · rw [Nat.shiftRight_eq_div_pow]
    cases c.sendtwice <;> simp <;> omega
  · rw [shiftRight_field _ (Nat.mod_lt _ (by decide))]
    cases c.sendtwice <;> simp <;> omega
example : Unipi.encode ⟨⟨24, 0xC1FE80⟩, true, false, false, false⟩ = .ok (0xBC1, 0xFE80) := by decide

end DaliVerif.Props.C18
