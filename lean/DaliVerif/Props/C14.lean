import DaliVerif.Props.GearCmds
import DaliVerif.Proofs.GearSeqC14
/-!
# C14 — colour (DT8) sequences carry 16-bit values byte-exactly and in order

Property theorems only.  `setTc`, `setTcLimit`, `queryColour` (`Model/GearSeq.lean`) model
`SetDT8ColourValueTc`, `SetDT8TcLimit`, `QueryDT8ColourValue` of `dali/gear/sequences.py`
(tied by lock-step execution); the specification bus executes a device-type-8 command only
directly after ENABLE DEVICE TYPE 8 and only in units that implement type 8 (`Bus.exec`
inserts the prefix, as every driver's `send` does for a command whose class has `devicetype = 8`).
The post-conditions are `Spec/GearPost.lean`.
-/
namespace DaliVerif.Props.C14
open DaliVerif GearSeq
set_option linter.unusedVariables false

/-- a plain `int` destination is the short address -/
theorem dest_int (d : Dest) (a : Addr) (hd : d.resolve = .ok a) (tc w : PyVal) (q : Option Nat) :
    setTc d tc = setTc (.addr a) tc ∧ setTcLimit d w tc = setTcLimit (.addr a) w tc ∧
    queryColour d q = queryColour (.addr a) q := by
  refine ⟨?_, ?_, ?_⟩ <;>
    simp only [setTc, setTcLimit, queryColour, withDest_resolve d a hd, withDest_resolve (.addr a) a rfl]

/-- **setTc_spec** — for every `tc < 65536`, every destination and every bus: the commands are
exactly DTR0(low byte), DTR1(high byte), SET TEMPORARY COLOUR TEMPERATURE, ACTIVATE, in that order;
afterwards every addressed colour unit has Tc = `tc` (limited to its own [coolest, warmest];
0xFFFF = MASK leaves Tc alone), DTR0/DTR1 hold the two bytes, and every other unit's colour state
is untouched. -/
theorem setTc_spec (b : Bus) (d : Dest) (a : Addr) (hd : d.resolve = .ok a) (tc : Nat) (htc : tc < 65536) :
    setTcPost b a tc (runBus (setTc d (.int tc)) b) = true := by
  rw [(dest_int d a hd (.int tc) .none none).1]; exact setTcPost_holds b a tc htc

/-- unit by unit (`runBus_st`: the final bus is this fold over the commands of `setTc_spec`): a colour unit addressed
whose limits admit `tc` ends with exactly `tc` -/
theorem setTc_exact (b : Bus) (a : Addr) (tc : Nat) (htc : tc < 65535) (u : Gear) (hu : u ∈ b)
    (hadd : u.addressed a = true) (h8 : u.types.contains 8 = true)
    (hlim : u.coolest ≤ tc ∧ tc ≤ u.warmest) :
    (([Cmd.dtr0 (tc % 256), .dtr1 (tc / 256), .setTempTc a, .activate a].foldl Gear.execSt u).tc) = tc := by
  have hc := setTc_cview u.cview a tc
  simp only [] at hc
  rw [← cview_fold _ rfl, cview_isDt8] at hc
  obtain ⟨-, -, -, -, -, -, h⟩ := hc
  have hd : u.isDt8 a = true := by rw [Gear.isDt8, hadd, h8]; rfl
  rw [if_pos hd, if_neg (show ¬ tc = MASK16 by unfold MASK16; omega)] at h
  exact h.1.trans (clamp_eq_self hlim.1 hlim.2)

/-- **setTcLimit_spec** — for every `tc < 65536` and each of the four limit selectors: DTR0, DTR1,
DTR2 are loaded (low byte, high byte, selector) before STORE COLOUR TEMPERATURE Tc LIMIT; the
selected limit of every addressed colour unit is exactly `tc`; nothing else moves. -/
theorem setTcLimit_spec (b : Bus) (d : Dest) (a : Addr) (hd : d.resolve = .ok a) (w tc : Nat)
    (hw : w < 4) (htc : tc < 65536) :
    setTcLimitPost b a w tc (runBus (setTcLimit d (.int w) (.int tc)) b) = true := by
  rw [(dest_int d a hd (.int tc) (.int w) none).2.1]; exact setTcLimitPost_holds b a w tc hw htc

/-- **query_spec** — for every selector and every bus whose registers are 16 bits wide: the four
commands QUERY ACTUAL LEVEL, DTR0(selector), QUERY COLOUR VALUE, QUERY CONTENT DTR0; the result is
exactly the 16-bit register the one addressed colour unit reports when its high byte is below
MASK, and `None` for MASK, an unsupported selector, nobody, a non-colour unit, or colliding
answers; no unit's colour state changes. -/
theorem query_spec (b : Bus) (hwf : ColourWF b) (d : Dest) (a : Addr) (hd : d.resolve = .ok a) (sel : Nat) :
    queryColourPost b a sel (runBus (queryColour d (some sel)) b) = true := by
  rw [(dest_int d a hd .none .none (some sel)).2.2]; exact queryColourPost_holds b hwf a sel

/-- **query_none** — against every stream of answers: four commands, and the value is
`LSB + 256·MSB` exactly when both bytes arrive cleanly and the MSB is not MASK — silence or a
framing error on either byte, or MASK, give `None`. -/
theorem query_none (answers : Nat → Resp) (a : Addr) (sel : Nat) :
    queryColourStreamPost answers (runStream (queryColour (.addr a) (some sel)) answers) = true :=
  queryColourStreamPost_holds answers a sel

/-- **rejects_early** — a colour temperature that does not fit 16 bits is refused before anything
is sent (both sequences), and so is a selector that is not a `QueryColourValueDTR` member. -/
theorem rejects_early (b : Bus) (a : Addr) (i : Int) (h : i < 0 ∨ 65536 ≤ i) (w : PyVal) :
    (runBus (setTc (.addr a) (.int i)) b).trace = [] ∧
    (runBus (setTc (.addr a) (.int i)) b).res = .raised .OverflowError ∧
    (runBus (setTcLimit (.addr a) w (.int i)) b).trace = [] ∧
    (runBus (setTcLimit (.addr a) w (.int i)) b).res = .raised .OverflowError ∧
    (runBus (queryColour (.addr a) none) b).trace = [] ∧
    (runBus (queryColour (.addr a) none) b).res = .raised .TypeError := by
  have hb : tcBytes (.int i) = .error .OverflowError := by
    cases i with
    | ofNat n => exact if_neg (by simp only [Int.ofNat_eq_natCast] at h; omega)
    | negSucc n => rfl
  simp only [runBus, setTc, setTcLimit, queryColour, withDest, Dest.resolve, hb, Prog.run, and_self]

/-- IEC 62386-209 Table 11 selector codes (hand-transcribed): actual 0–15, primaries 64–82,
limits 128–131, temporary 192–208, report 224–240 -/
def table11 : List Nat :=
  (List.range 16) ++ (List.range 19).map (· + 64) ++ (List.range 4).map (· + 128) ++
  (List.range 17).map (· + 192) ++ (List.range 17).map (· + 224)

/-- the library's `QueryColourValueDTR` is exactly Table 11 -/
theorem selectors_gen : Gen.GearSeqEnums.queryColourValueDTR.map (·.2) = table11 := rfl

/-- the library's `StoreColourTemperatureTcLimitDTR2` selectors are the four the specification
unit stores: coolest 0, warmest 1, physical coolest 2, physical warmest 3 -/
theorem tcLimit_gen : Gen.GearSeqEnums.tcLimitDTR2 =
    [("TcCoolest", 0), ("TcWarmest", 1), ("TcPhysicalCoolest", 2), ("TcPhysicalWarmest", 3)] := rfl

/-- every selector of the library is answered exactly (instance of `query_spec`) -/
theorem query_spec_gen (b : Bus) (hwf : ColourWF b) (a : Addr) :
    ∀ s ∈ Gen.GearSeqEnums.queryColourValueDTR,
      queryColourPost b a s.2 (runBus (queryColour (.addr a) (some s.2)) b) = true :=
  fun s _ => queryColourPost_holds b hwf a s.2

def sampleCmds : List Cmd := GearCmds.sampleCmds

/-- the frames, class names and device types the model gives its commands are those the
working tree's command classes carry (regenerated on every run) -/
theorem cmd_frames_gen :
    sampleCmds.map (fun c => (c.cls, c.frame, c.devicetype)) =
      Gen.GearSeqEnums.cmdSamples.map (fun r => (r.1, r.2.1, r.2.2.1)) := GearCmds.cmd_frames_gen

/-- the `sendtwice` flag of every command class the gear sequences use is what the standard requires -/
theorem cmd_sendtwice_gen :
    sampleCmds.map (fun c => (c.cls, c.twiceRequired)) =
      Gen.GearSeqEnums.cmdSamples.map (fun r => (r.1, r.2.2.2.1)) := GearCmds.cmd_sendtwice_gen

theorem execFlagged_eq_exec (b : Bus) (c : Cmd) : Bus.execFlagged b c c.twiceRequired = Bus.exec b c :=
  GearCmds.execFlagged_eq_exec b c

theorem addr_bytes_gen :
    [Addr.short 0, .short 63, .group 0, .group 15, .broadcast, .unaddressed].map
      (fun a => (Cmd.queryGearPresent a).frame) = Gen.GearSeqEnums.addrSamples := rfl

/-! ## Non-vacuity -/

def tcUnit : Gear := { short := some 1, types := [8], coolest := 153, warmest := 370, tc := 200 }

example : (runBus (setTc (.int 1) (.int 300)) [tcUnit]).st.map (·.tc) = [300] := rfl
example : (runBus (setTc (.int 1) (.int 100)) [tcUnit]).st.map (·.tc) = [153] := rfl
example : (runBus (setTc (.int 1) (.int 0x1234)) [tcUnit]).trace
    = [.dtr0 0x34, .dtr1 0x12, .setTempTc (.short 1), .activate (.short 1)] := rfl
example : (runBus (queryColour (.int 1) (some 2)) [tcUnit]).res = .ret (some 200) := rfl
example : (runBus (queryColour (.int 1) (some 130)) [tcUnit]).res = .ret (some 370) := rfl
example : (runBus (queryColour (.int 1) (some 0)) [tcUnit]).res = .ret none := rfl
example : (runBus (setTcLimit (.int 1) (.int 1) (.int 400)) [tcUnit]).st.map (·.warmest) = [400] := rfl

end DaliVerif.Props.C14
