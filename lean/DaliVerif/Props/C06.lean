import DaliVerif.Proofs.Response
import DaliVerif.Gen.Responses
/-!
# C06 — responses interpret every backward-frame outcome faithfully and totally

Property theorems only.  `Resp.*` is the model of the response classes
(`Model/Response.lean`, tied to the code exhaustively: every class × 513
outcomes × every accessor on every run), `Spec.Resp.*` the statement of the
property as predicates on results, `Gen.responses` the table regenerated from
the working tree.

First generic theorems per *implementor kind*, for every class record `c`
(whatever its data) and every outcome.  Then the regenerated table
satisfies the decidable side conditions (`table_wellFormed`, by kernel
evaluation on every run), hence every reachable class is faithful on every
outcome (`faithful`).
-/
namespace DaliVerif.Props.C06
open DaliVerif DaliVerif.Resp DaliVerif.Spec.Resp

/-- "a response can only be built from a backward frame or None": the
constructor accepts exactly `None` and instances of `BackwardFrame`; every
other argument kind is a `TypeError`. -/
theorem ctor_rejects_non_frames (a : CtorArg) :
    construct a =
      match a with
      | .none | .py .none => .ok .none
      | .backward false b => .ok (.ok b)
      | .backward true b => .ok (.err b)
      | _ => .error .TypeError := by
  cases a with
  | none => rfl
  | backward e b => cases e <;> rfl
  | otherFrame => rfl
  | py v => cases v <;> rfl

/-- "the raw frame is passed through unchanged": `raw_value` is the object
the response was built from. -/
theorem raw_passthrough (e : Bool) (b : Fin 256) (o : Outcome)
    (h : construct (.backward e b) = .ok o) : rawValue o = .frame e b.val := by
  cases e <;> (injection h with h; subst h; rfl)

theorem raw_passthrough_none (o : Outcome) (h : construct .none = .ok o) : rawValue o = .none := by
  injection h with h; subst h; rfl

/-- "a yes/no response is true exactly when anything at all was received" -/
theorem yesno_value (c : RespClass) (h : c.value = .yesNo) (o : Outcome) :
    respValue c o = some (.ok (.bool (decide (o ≠ .none)))) := by
  cases o <;> simp [respValue, h, yesNoValue]

/-- "a numeric response yields the integer exactly when a clean frame was
received …" -/
theorem numeric_value (c : RespClass) (h : c.value = .numeric) (o : Outcome) (n : Nat) :
    respValue c o = some (.ok (.int n)) ↔ ∃ b : Fin 256, o = .ok b ∧ b.val = n := by
  cases o <;> simp [respValue, h, numericValue]

/-- "… and a non-integer marker otherwise" (a string, never an exception) -/
theorem numeric_marker (c : RespClass) (h : c.value = .numeric) (o : Outcome)
    (ho : ∀ b, o ≠ .ok b) : ∃ s, respValue c o = some (.ok (.str s)) := by
  cases o with
  | ok b => exact absurd rfl (ho b)
  | none => exact ⟨"(missing)", by simp [respValue, h, numericValue]⟩
  | err b => exact ⟨"(framing error)", by simp [respValue, h, numericValue]⟩

/-- "(255 reads as MASK where the standard says so)": the mask kind gives
`"MASK"` for a clean 255, the integer for every other clean frame, and the
same markers as the plain numeric kind otherwise. -/
theorem numeric_mask_value (c : RespClass) (h : c.value = .numericMask) (o : Outcome) :
    respValue c o = some (.ok (match o with
      | .ok b => if b.val = 255 then .str "MASK" else .int b.val
      | .none => .str "(missing)"
      | .err _ => .str "(framing error)")) := by
  cases o with
  | ok b => simp only [respValue, h, numericMaskValue_ok]
  | _ => simp only [respValue, h]; rfl

/-- "a generic response hands back the frame itself" -/
theorem generic_value (c : RespClass) (h : c.value = .base) (b : Fin 256) :
    respValue c (.ok b) = some (.ok (.frame false b.val)) := by
  simp [respValue, h, baseValue]

/-- "a response that cannot tolerate a missing or garbled answer says so with
MissingResponse or ResponseError" — and one that can, hands back what it got. -/
theorem missing_or_garbled (c : RespClass) (h : c.value = .base) :
    respValue c .none = some (if c.expected then .error .MissingResponse else .ok .none) ∧
    ∀ b, respValue c (.err b) =
      some (if c.errorAcceptable then .ok (.frame true b.val) else .error .ResponseError) := by
  constructor
  · simp [respValue, h, baseValue]
  · intro b; cases he : c.errorAcceptable <;> simp [respValue, h, baseValue, he]

/-- "an enumerated response also rejects undefined codes with ValueError" and
maps defined codes to the member with that value. -/
theorem enum_rejects_undefined (c : RespClass) (h : c.value = .enum) (b : Fin 256) :
    respValue c (.ok b) =
      some (if b.val ∈ Spec.Resp.memberValues c then .ok (.enum b.val) else .error .ValueError) := by
  simp only [respValue, h, enumValue_ok]

/-- the enumerated response does not swallow silence or a garbled answer -/
theorem enum_missing_or_garbled (c : RespClass) (h : c.value = .enum) (he : c.errorAcceptable = false) :
    respValue c .none = some (if c.expected then .error .MissingResponse else .ok .none) ∧
    ∀ b, respValue c (.err b) = some (.error .ResponseError) := by
  simp [respValue, h, enumValue_of_not_ok c he, baseValue, he]

/-- "a bitmap response lists exactly the names of the set bits": for a clean
frame `status` is the reference comprehension over `bits`, for any `bits`. -/
theorem bitmap_status (c : RespClass) (h : c.status = .bitmap) (b : Fin 256) :
    respStatus c (.ok b) = some (.ok (.strs (setBitNames c.bits b.val))) := by
  simp [respStatus, h, bitmapStatus, statusLoop_eq]

/-- "… and exposes each named bit": an attribute name that `_bit_properties`
maps to index `i < 8` (and that no extra property shadows) reads bit `i` of a
clean frame, and `None` when there is no clean frame. -/
theorem bit_attr (c : RespClass) (h : c.getattr = .bitmap) (name : String) (i : Nat)
    (hl : lookupProp name c.bitProps = some i) (hx : lookupExtra name c.extras = none)
    (hi : i < 8) (o : Outcome) :
    respAttr c name o = some (match o with
      | .ok b => .ok (.bool (b.val.testBit i))
      | _ => .ok .none) := by
  cases o <;> simp [respAttr, hx, respGetattr, h, bitmapGetattr, hl, bitAt, hi]

/-- an attribute that is neither a named bit nor an extra property does not exist -/
theorem unknown_attr (c : RespClass) (name : String)
    (hl : lookupProp name c.bitProps = none) (hx : lookupExtra name c.extras = none)
    (o : Outcome) (hk : ∀ q, c.getattr ≠ .custom q) :
    respAttr c name o = some (.error .AttributeError) := by
  simp only [respAttr, hx, respGetattr]
  cases hg : c.getattr with
  | bitmap => simp [bitmapGetattr, hl]
  | absent => rfl
  | custom q => exact absurd hg (hk q)

/-- "Rendering a response as text never raises MissingResponse or
ResponseError" — for every class record that satisfies the decidable side
conditions and every outcome. -/
theorem str_never_raises_missing_or_response_error (c : RespClass) (h : WellFormed c = true)
    (o : Outcome) :
    ∃ r, respStr c o = some r ∧ r ≠ .error .MissingResponse ∧ r ≠ .error .ResponseError := by
  have := strHolds_of_wellFormed c h o
  unfold strHolds at this
  cases hr : respStr c o with
  | none => simp [hr] at this
  | some r =>
    refine ⟨r, rfl, ?_, ?_⟩ <;> (intro he; subst he; simp [hr, strOK] at this)

/-- The whole statement for one class: well-formedness of its table row gives
faithfulness on **every** outcome (no enumeration of outcomes). -/
theorem faithful_of_wellFormed (c : RespClass) (h : WellFormed c = true) :
    ∀ o : Outcome, holds c o = true :=
  holds_of_wellFormed c h

/-- Every response class reachable from a command class in the current tree
has only implementors the model knows, its `value` implementor is the one its
base class promises, its named bits are exposed, … (re-evaluated by the
kernel against the regenerated `Gen.responses` on every run). -/
theorem table_wellFormed : ∀ c ∈ Gen.responses, WellFormed c = true := by decide +kernel

/-- The data the behaviour depends on is what the standard says: category,
`_expected` / `_error_acceptable`, the name of every bit of every bitmap
answer in its position, the codes of the enumerated answers and the device
type names all equal the independently transcribed `Spec.Resp.table`
(rows for parts 205/206 are pinned, see that file). -/
theorem table_matches_standard :
    Gen.responses.map project = Spec.Resp.table.map unpin := by rfl

/-- **C06 for the current tree**: every reachable response class, on every
one of the 513 bus outcomes, yields a `value` acceptable for its category,
renders as text without `MissingResponse`/`ResponseError`, and (bitmap
classes) lists exactly the set bits and exposes each named bit. -/
theorem faithful : ∀ c ∈ Gen.responses, ∀ o : Outcome, holds c o = true :=
  fun c hc => holds_of_wellFormed c (table_wellFormed c hc)

theorem str_total : ∀ c ∈ Gen.responses, ∀ o : Outcome,
    ∃ r, respStr c o = some r ∧ r ≠ .error .MissingResponse ∧ r ≠ .error .ResponseError :=
  fun c hc => str_never_raises_missing_or_response_error c (table_wellFormed c hc)

/-! ## the defect repaired by `fix:` ee8b83c (F1), kept as a witness -/

/-- `Response.__str__` as it was: `except MissingResponse or ResponseError`
catches `MissingResponse` only. -/
def baseStrBeforeFix (v : PyRes Val) : PyRes Text :=
  match v with
  | .ok v => .ok (.s v.format)
  | .error .MissingResponse => .ok (.s "")
  | .error e => .error e

/-- F1: with the old handler, `str(Response(BackwardFrameError(b)))` raised
`ResponseError` for every `b`. -/
theorem str_raised_before_fix (b : Fin 256) :
    baseStrBeforeFix (baseValue false false (.err b)) = .error .ResponseError := rfl

/-! ## non-vacuity -/

example : Gen.responses ≠ [] := by decide +kernel
example : ∃ c ∈ Gen.responses, catOf c = .yesNo := by decide +kernel
example : ∃ c ∈ Gen.responses, catOf c = .numericMask := by decide +kernel
example : ∃ c ∈ Gen.responses, catOf c = .bitmap ∧ c.bits.length = 8 := by decide +kernel
example : ∃ c ∈ Gen.responses, catOf c = .enum ∧ c.members ≠ [] := by decide +kernel
example : ∃ c ∈ Gen.responses, catOf c = .enumMask := by decide +kernel
example : ∃ c ∈ Gen.responses, catOf c = .generic ∧ c.expected = false := by decide +kernel
example : setBitNames ["a", "", "c"] 7 = ["a", "c"] := by decide +kernel
example : baseValue true false .none = .error .MissingResponse := rfl

end DaliVerif.Props.C06
