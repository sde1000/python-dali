import DaliVerif.Props.C15
import DaliVerif.Proofs.ConnLangAsync
/-!
# C17 — gateway loss or silence fails sends promptly and recovery is clean

Model: `Model/Async.lean` (tasks, locks, outstanding table, mailbox) with the
connection machine `Model/Conn.lean`; faults are labels of the schedule:
`env lose` (EOF / read error / failing write: `disconnect(reconnect=True)` with
`_shutdown_device`), `raise t e` (CommunicationError, TimeoutError, cancellation
at the action the task is blocked in), `env timer/back/gone/connect`.  The
theorems hold for every schedule, i.e. every placement of every fault.

Connection clauses (`status_language`, `never_silent`, `failed_after_limit`,
`attempts_reset_on_connect`, `recovery`): invariant `Conn.CInv` of
`Proofs/ConnLang.lean`, lifted to schedules by `Proofs/ConnLangAsync.lean`.
Completion of sends after `recovery` is `C15.progress` / `C15.nobody_hangs`
under the explicit environment hypotheses `s.conn.up` and `GatewayAnswers s` (and `C15.NoRefusalPending s`).
Not in the model: the retry *interval* (no clock).
-/
namespace DaliVerif.Props.C17
open DaliVerif.Async DaliVerif.Conn

/-- `no_leak`: in every reachable state in which all callers have finished — whatever mixture of
normal returns, CommunicationError, time-outs and cancellations at any await got them there, and
however many losses and reconnections happened — the transaction lock is free, the inner
serialiser (Tridonic semaphore / hasseb command lock / serial tx lock) is back at capacity and
`_outstanding` is empty. -/
theorem no_leak {s0 s : St} {ls : List Label} (h0 : s0.initial) (hl : ∀ l ∈ ls, l.ok)
    (h : run? s0 ls = some s) (hfin : ∀ (t : Tid) (tk : Async.Task), s.tasks[t]? = some tk → tk.prog = []) :
    s.lock = none ∧ s.inner = [] ∧ s.slots = [] :=
  C15.lock_free_at_end h0 hl h hfin

/-- `no_leak` for the four drivers: every schedule of `send` / `run_sequence` callers. -/
theorem no_leak_drivers (d : Driver) {s0 s : St} {ls : List Label} (h0 : s0.initial)
    (hd : C15.DriverSchedule d ls) (h : run? s0 ls = some s)
    (hfin : ∀ (t : Tid) (tk : Async.Task), s.tasks[t]? = some tk → tk.prog = []) :
    s.lock = none ∧ s.inner = [] ∧ s.slots = [] :=
  no_leak h0 (C15.driverSchedule_ok hd) h hfin

/-- `wrap_safe`: after any history, whenever a task is about to register a sequence number the
table of outstanding commands is empty — so the number can never be occupied, whatever the
counter's value, for 300 or any number of further sends (the `assert` of `_send_raw` cannot
fire). -/
theorem wrap_safe {s0 s : St} {ls : List Label} (h0 : s0.initial) (hl : ∀ l ∈ ls, l.ok)
    (h : run? s0 ls = some s) {t : Tid} {tk : Async.Task} {st : Step} {rest : List Step}
    (ht : s.tasks[t]? = some tk) (hp : tk.prog = st :: rest) (ha : st.act = .slot) :
    s.slots = [] ∧ (step? s (.act t)).isSome = true := by
  have hempty := (reachable_inv h0 hl h).slots_empty ht hp ha
  exact ⟨hempty, by simp [step?, actStep, ht, hp, ha, hempty]⟩

/-- `inflight_fail` (1): a loss hands every outstanding command a "fail" and empties the table. -/
theorem inflight_fail {s s' : St} (h : step? s (.env .lose) = some s') :
    s'.slots = [] ∧ (∀ q u, (q, u) ∈ s.slots → (q, Msg.fail) ∈ s'.mail) ∧ (0, Msg.fail) ∈ s'.mail := by
  obtain ⟨c', -, ⟨hne, -⟩ | ⟨-, rfl⟩⟩ := step?_env h
  · exact absurd rfl hne
  · refine ⟨rfl, fun q u hqu => ?_, by simp [shutdown]⟩
    simp only [shutdown, List.mem_append, List.mem_map]
    exact Or.inl (Or.inr ⟨(q, u), hqu, rfl⟩)

/-- `inflight_fail` (2): a task waiting for a report whose next message is "fail" cannot continue
normally — its only step is to raise; with exceptions on (`retry = none`) it leaves with that
error after its clean-up, with exceptions off it re-enters the send loop (`raiseStep`). -/
theorem inflight_fail_must_raise {s : St} {t : Tid} {tk : Async.Task} {m : Msg} {timed : Bool}
    {rest : List Step} {st : Step} (ht : s.tasks[t]? = some tk) (hp : tk.prog = st :: rest)
    (ha : st.act = .await m timed) (hm : m ≠ .fail) {mail' : List (Nat × Msg)}
    (hfail : takeMail tk.tag (awaitSel tk.tag m) s.mail = some (.fail, mail')) :
    step? s (.act t) = none := by
  simp only [step?, actStep, ht, hp, ha, hfail]
  rw [if_neg (fun e : Msg.fail = m => hm e.symm)]

/-- `inflight_fail` (3), the transparent retry (`retry_resends_whole_unit`):
in every reachable state of every schedule of `send` / `run_sequence` callers of driver `d`, a
CommunicationError that hits a caller sending with exceptions off — at any step of its unit, also after the
EnableDeviceType prefix has completed and while the command itself is in flight — leaves the caller inside the
call with the clean-up back to the loop head (no frame), then the WHOLE unit again (`C15.unitFrames`:
EnableDeviceType first when the command needs a device type, then the command), then the release of the lock.
Prefix and command are never retried separately. -/
theorem retry_resends_whole_unit (d : Driver) {s0 s s' : St} {ls : List Label} (h0 : s0.initial)
    (hd : C15.DriverSchedule d ls) (h : run? s0 ls = some s) {t : Tid} {tk : Async.Task}
    (ht : s.tasks[t]? = some tk) (hretry : tk.retry.isSome = true)
    (hstep : step? s (.raise t .comm) = some s') :
    ∃ (c : Cmd) (st : Step) (rest cleanup : List Step) (tk' : Async.Task),
      tk.prog = st :: rest ∧ st.act.canComm = true ∧
      s'.tasks[t]? = some tk' ∧ tk'.exc = tk.exc ∧ tk'.retry = tk.retry ∧ s'.lock = s.lock ∧ s'.log = s.log ∧
      tk'.prog = cleanup ++ withEdt d c [Act.rel] ++ [{ act := .rel }] ∧
      (∀ x ∈ cleanup, x.act.isCleanup = true) ∧ C15.writesOf cleanup = [] ∧
      (d.carries c.frame = true → C15.writesOf (withEdt d c [Act.rel]) = C15.unitFrames d c) ∧
      (c.frame.dt ≠ 0 → (C15.unitFrames d c).head? = some (edtFrame c.frame.dt)) ∧
      edtOK none (withEdt d c [Act.rel]) = true :=
  C15.retry_resends_whole_unit d h0 hd h ht hretry hstep

/-- `serial_timeout`: a confirmation time-out (or any exception or cancellation) in a serial send
leaves the call with everything released; the wait for the backward frame can always end
(`poll` is enabled with or without an answer: "no answer" after `timeout_rx`). -/
theorem serial_timeout {s0 s s' : St} {ls : List Label} (h0 : s0.initial) (hl : ∀ l ∈ ls, l.ok)
    (h : run? s0 ls = some s) {t : Tid} {tk : Async.Task} (ht : s.tasks[t]? = some tk)
    (hnoretry : tk.retry = none) (hstep : step? s (.raise t .timeout) = some s') :
    ∃ tk', s'.tasks[t]? = some tk' ∧ tk'.exc = some .timeout ∧
      cleanupOK (res s' t) (tk'.prog.map (·.act)) = true :=
  C15.release_on_raise_or_cancel h0 hl h ht hnoretry hstep

theorem serial_answer_wait_ends {s : St} {t : Tid} {tk : Async.Task} {st : Step} {rest : List Step}
    (ht : s.tasks[t]? = some tk) (hp : tk.prog = st :: rest) (ha : st.act = .poll) :
    (step? s (.act t)).isSome = true := by
  simp only [step?, actStep, ht, hp, ha]
  split <;> rfl

/-! ## the connection machine: callbacks, reconnect limit, recovery

All of the following hold for every schedule `ls` of the interleaving model from a driver object
on which `connect()` has not been called yet (`s0.conn.fresh`): any placement of losses (`env
lose`, at any point including during the handshake and between retries), of the reconnect timer
with the device present or absent (`env gone/back`), of explicit `connect()` calls while no retry is
pending (`Conn.stepWith` has no `connect` step otherwise; the library would start a second retry task), any reconnect
limit (`none`, `some 0`, `some n`), any interleaving with callers, exceptions and cancellations.
The invariant is `Conn.CInv` (`Proofs/ConnLang.lean`), carried through every step of
`Model/Conn.lean` and through the projection `Async.run_conn` of schedules to connection events. -/

/-- `status_language`: the callbacks delivered so far are a word the automaton `Conn.lstep` of
`connected · (disconnected · (connected | failed))*` never gets stuck on (`idle` = before the
first `connected` and again after `failed`, from where only an explicit `connect()` continues);
moreover the automaton is in `up` exactly while the device file is open, and while it is in
`down` — the last callback was `disconnected` — a retry is pending: the driver has not given up
after `disconnected` (that the timer then fires is the environment's part). -/
theorem status_language {s0 s : St} {ls : List Label} (hc : s0.conn.fresh) (h : run? s0 ls = some s) :
    ∃ q, lrun .idle s.conn.cbs = some q ∧ (q = .up ↔ s.conn.fd = true) ∧
      (q = .down → s.conn.pending = true) :=
  (conn_CInv hc h).lang

/-- `status_language` in the Boolean form `Conn.langOK` -/
theorem status_language_ok {s0 s : St} {ls : List Label} (hc : s0.conn.fresh) (h : run? s0 ls = some s) :
    s.conn.langOK = true :=
  (conn_CInv hc h).langOK

/-- `status_language` for the connection machine on its own: every event sequence -/
theorem status_language_conn {c0 c : Conn} {es : List Conn.Ev} (hc : c0.fresh)
    (h : Conn.run Conn.step c0 es = some c) : c.langOK = true :=
  (run_CInv (fresh_CInv hc) h).langOK

/-- `status_language`, the literal form `connected · (disconnected · (connected | failed))*`
with nothing after `failed`: when the application calls `connect()` once, with the device there,
and never again, the callbacks are accepted by the strict automaton `Conn.sstep` (no `idle`
state: `failed` is final). -/
theorem status_language_strict {c0 c : Conn} {es : List Conn.Ev} (hc : c0.fresh) (hpr : c0.present = true)
    (hes : ∀ e ∈ es, e ≠ .connect) (h : Conn.run Conn.step c0 (.connect :: es) = some c) :
    (srun .start c.cbs).isSome = true := by
  have hstep := step_connect hc.2.1
  rw [openWith_present _ _ hc.1 hpr] at hstep
  rw [run_cons hstep] at h
  -- after the first `connect()` the strict automaton is in `up`; `SInv` is kept while nobody calls `connect()`
  have hS : srun .start c.cbs = some (if c.fd then .up else if c.pending then .down else .dead) :=
    run_SInv (step_CInv (fresh_CInv hc) hstep) (by simp [SInv, hc.2.2.2.1, srun, sstep]) hes h
  rw [hS]
  rfl

/-- after `disconnected` the driver keeps trying: if the last callback is `disconnected`, the
device file is closed and a retry is pending -/
theorem retry_pending_while_disconnected {s0 s : St} {ls : List Label} (hc : s0.conn.fresh)
    (h : run? s0 ls = some s) (hlast : s.conn.cbs.getLast? = some .disconnected) :
    s.conn.fd = false ∧ s.conn.pending = true := by
  obtain ⟨q, hq, -, hdown⟩ := status_language hc h
  have hp := hdown (lrun_last_disconnected hq hlast)
  exact ⟨(conn_CInv hc h).fd_of_pending hp, hp⟩

/-- the driver never gives up silently (the general form of the F9 repair): in every reachable
state with the device closed and no retry pending, either nothing was ever reported (`connect()`
not called yet) or the last callback is `failed`. -/
theorem never_silent {s0 s : St} {ls : List Label} (hc : s0.conn.fresh) (h : run? s0 ls = some s)
    (hfd : s.conn.fd = false) (hp : s.conn.pending = false) :
    s.conn.cbs = [] ∨ s.conn.cbs.getLast? = some .failed :=
  (conn_CInv hc h).never_silent hfd hp

/-- `failed_after_limit`: every `failed` callback was delivered after exactly `reconnect_limit`
failed timer-driven attempts of that outage (one ghost entry per `failed` callback, each equal to
the limit); while a retry is pending fewer than `limit` attempts of this outage have failed (the
driver never tries more often than the limit); with `reconnect_limit=None` there is never a
`failed`; the limit itself never changes. -/
theorem failed_after_limit {s0 s : St} {ls : List Label} (hc : s0.conn.fresh) (h : run? s0 ls = some s) :
    s.conn.limit = s0.conn.limit ∧
    (∀ k, k ∈ s.conn.failedAfter → s.conn.limit = some k) ∧
    nFailed s.conn.cbs = s.conn.failedAfter.length ∧
    (s.conn.pending = true → ∀ l, s.conn.limit = some l → s.conn.attempts < l) ∧
    (s.conn.limit = none → nFailed s.conn.cbs = 0) := by
  have hI := conn_CInv hc h
  refine ⟨(run_config (run_conn h)).1, hI.failed, hI.nfail, fun hp => (hI.pend hp).2, ?_⟩
  intro hn
  rw [hI.nfail, List.length_eq_zero_iff]
  exact List.eq_nil_iff_forall_not_mem.mpr fun k hk => by have := hI.failed k hk; rw [hn] at this; cases this

/-- `failed_after_limit`, step form — exactly when: a retry with the device still absent counts
the attempt; it reports `failed` (and stops retrying, `_reconnect_count` back to 0) if and only if
the attempts of this outage have now reached the limit, otherwise it reports nothing and arms the
next retry. -/
theorem retry_until_limit {s0 s : St} {ls : List Label} (hc : s0.conn.fresh) (h : run? s0 ls = some s)
    (hp : s.conn.pending = true) (hpr : s.conn.present = false) :
    ∃ s', step? s (.env .timer) = some s' ∧ s'.conn.fd = false ∧ s'.conn.attempts = s.conn.attempts + 1 ∧
      ((s.conn.limit = some (s.conn.attempts + 1) ∧ s'.conn.cbs = s.conn.cbs ++ [.failed] ∧
          s'.conn.pending = false ∧ s'.conn.count = 0) ∨
       (s.conn.limit ≠ some (s.conn.attempts + 1) ∧ s'.conn.cbs = s.conn.cbs ∧ s'.conn.pending = true ∧
          s'.conn.count = s.conn.attempts + 2)) := by
  have hI := conn_CInv hc h
  obtain ⟨hcnt, hle⟩ := hI.pend hp
  have hfd := hI.fd_of_pending hp
  -- the failed `connect()` counts the attempt and hands over to `_reconnect`, whose counter is `attempts + 1`
  refine ⟨{ s with conn := reconnect (ticked s.conn) }, by simp [step?, step_timer_absent hp hfd hpr], ?_⟩
  have hc : (ticked s.conn).count = s.conn.attempts + 1 := hcnt
  rcases reconnect_cases (ticked s.conn) with ⟨l, hl, hgt, hr⟩ | ⟨harm, hr⟩ <;> rw [hr]
  · have : l = s.conn.attempts + 1 := by have := hle l hl; omega
    subst this
    exact ⟨hfd, rfl, Or.inl ⟨hl, rfl, rfl, rfl⟩⟩
  · refine ⟨hfd, rfl, Or.inr ⟨fun hl => ?_, rfl, rfl, by show s.conn.count + 1 = _; omega⟩⟩
    have := harm _ hl
    omega

/-- `attempts_reset_on_connect` (1): in every reachable state with the device file open,
`_reconnect_count` is 0 and no retry is pending — every path that opens the device (first
`connect()`, a retry, an explicit `connect()` after `failed`) resets the counter. -/
theorem attempts_reset_on_connect {s0 s : St} {ls : List Label} (hc : s0.conn.fresh) (h : run? s0 ls = some s)
    (hfd : s.conn.fd = true) : s.conn.count = 0 ∧ s.conn.pending = false := by
  have hI := conn_CInv hc h
  exact ⟨hI.idle (hI.fdp hfd), hI.fdp hfd⟩

/-- `attempts_reset_on_connect` (2), step form, no invariant needed: whichever event opens the
device reports `connected`, sets `_reconnect_count = 0` and restarts the handshake. -/
theorem connect_resets_counter {s s' : St} {e : Conn.Ev} (h : step? s (.env e) = some s')
    (h0 : s.conn.fd = false) (h1 : s'.conn.fd = true) :
    s'.conn.count = 0 ∧ s'.conn.cbs = s.conn.cbs ++ [.connected] ∧ s'.conn.hsLeft = s'.conn.hsSteps ∧
      s'.conn.pending = false := by
  -- only `connect()`, called by the application or by the timer, opens the device
  have hs := step_env_conn h
  generalize s'.conn = c' at hs h1 ⊢
  have hs := step_cases hs
  cases e with
  | lose => rw [h0] at hs; cases hs.1
  | hs => rw [h0] at hs; cases hs.1
  | gone => obtain ⟨-, rfl⟩ := hs; rw [h0] at h1; cases h1
  | back => cases hs; rw [h0] at h1; cases h1
  | timer => obtain ⟨-, rfl⟩ := hs; rw [openWith_fd (x := { s.conn with pending := false }) h0 h1]; exact ⟨rfl, rfl, rfl, rfl⟩
  | connect => obtain ⟨hp, rfl⟩ := hs; rw [openWith_fd h0 h1]; exact ⟨rfl, rfl, rfl, hp⟩

/-- `attempts_reset_on_connect` (3): the limit is a budget per outage, not per lifetime.  Every
loss starts the outage's attempt counter at 0 (and arms the first retry with `_reconnect_count =
1`, or reports `failed` at once for limit 0), and while a retry is pending `_reconnect_count` is
exactly one more than the failed attempts of THIS outage. -/
theorem limit_is_per_outage {s0 s : St} {ls : List Label} (hc : s0.conn.fresh) (h : run? s0 ls = some s) :
    (s.conn.pending = true → s.conn.count = s.conn.attempts + 1) ∧
    (∀ s', step? s (.env .lose) = some s' →
      s'.conn.fd = false ∧ s'.conn.attempts = 0 ∧
      ((s.conn.limit = some 0 ∧ s'.conn.cbs = s.conn.cbs ++ [.disconnected, .failed] ∧
          s'.conn.pending = false ∧ s'.conn.count = 0) ∨
       (s.conn.limit ≠ some 0 ∧ s'.conn.cbs = s.conn.cbs ++ [.disconnected] ∧
          s'.conn.pending = true ∧ s'.conn.count = 1))) := by
  have hI := conn_CInv hc h
  refine ⟨fun hp => (hI.pend hp).1, fun s' hs => ?_⟩
  obtain ⟨hfd, hs'⟩ := step_cases (step_env_conn hs)
  -- `_reconnect` is entered with the counter at 0: it reports `failed` at once only for limit 0
  have h0 : (lost s.conn).count = 0 := hI.idle (hI.fdp hfd)
  rw [hs']
  rcases reconnect_cases (lost s.conn) with ⟨l, hl, hgt, hr⟩ | ⟨harm, hr⟩ <;> rw [hr]
  · have : l = 0 := by omega
    subst this
    exact ⟨rfl, rfl, Or.inl ⟨hl, by simp, rfl, rfl⟩⟩
  · refine ⟨rfl, rfl, Or.inr ⟨fun hl => ?_, rfl, rfl, by show s.conn.count + 1 = 1; rw [show s.conn.count = 0 from h0]⟩⟩
    have := harm 0 hl
    omega

/-- one step of `recovery` on the connection machine alone: with a retry pending and the device
back, the timer re-opens it, reports `connected` and restarts the handshake -/
theorem reconnect_when_back (c : Conn) (hp : c.pending = true) (hfd : c.fd = false) (hpr : c.present = true) :
    ∃ c', Conn.step c .timer = some c' ∧ c'.fd = true ∧ c'.hsLeft = c.hsSteps ∧
      c'.cbs = c.cbs ++ [.connected] ∧ c'.count = 0 ∧ c'.pending = false :=
  ⟨_, step_timer_present hp hfd hpr, rfl, rfl, rfl, rfl, rfl⟩

theorem handshake_completes (c : Conn) (hfd : c.fd = true) (n : Nat) (hn : c.hsLeft = n) :
    ∃ c', Conn.run Conn.step c (List.replicate n .hs) = some c' ∧ c'.up = true ∧ c'.cbs = c.cbs := by
  subst hn
  exact ⟨_, hs_run hfd, by simp [Conn.up, hfd], rfl⟩

/-- `recovery`: in any reachable state whose last callback is `disconnected` (whatever happened
before: losses during the handshake, failed retries, callers queued or failed), when the device
returns (`env back`), the next retry (`env timer`) and the gateway's `hsSteps` handshake reports
(`env hs`; 2 for Tridonic, 0 for hasseb) are all enabled, and lead to a state in which
`connected` is set again, `connected` has been reported exactly once more, `_reconnect_count`
is 0, nothing of the callers' state (programs, locks, table, mailbox) was touched — and every
caller queued in `await self.connected.wait()` can now proceed.  From there `C15.progress` /
`C15.nobody_hangs` apply (hypotheses: `connected` set, `GatewayAnswers`): queued and new sends
run to completion.  The environment assumptions are exactly the three labels of the schedule:
the device returns, the timer fires, the gateway answers the handshake. -/
theorem recovery {s0 s : St} {ls : List Label} (hc : s0.conn.fresh) (h : run? s0 ls = some s)
    (hlast : s.conn.cbs.getLast? = some .disconnected) :
    ∃ s', run? s (.env .back :: .env .timer :: List.replicate s.conn.hsSteps (.env .hs)) = some s' ∧
      s'.conn.up = true ∧ s'.conn.cbs = s.conn.cbs ++ [.connected] ∧ s'.conn.count = 0 ∧
      s'.conn.pending = false ∧
      s'.tasks = s.tasks ∧ s'.lock = s.lock ∧ s'.inner = s.inner ∧ s'.slots = s.slots ∧ s'.mail = s.mail ∧
      (∀ t tk st rest, s'.tasks[t]? = some tk → tk.prog = st :: rest → st.act = .connWait →
        (step? s' (.act t)).isSome = true) := by
  obtain ⟨hfd, hp⟩ := retry_pending_while_disconnected hc h hlast
  -- on the connection machine alone: the device returns, the timer opens it, the handshake runs
  have hr : Conn.run Conn.step s.conn (.back :: .timer :: List.replicate s.conn.hsSteps .hs) =
      some { s.conn with present := true, pending := false, fd := true, hsLeft := 0, count := 0,
                         cbs := s.conn.cbs ++ [.connected] } := by
    rw [run_cons (c1 := { s.conn with present := true }) rfl,
      run_cons (step_timer_present (c := { s.conn with present := true }) hp hfd rfl)]
    exact hs_run rfl
  have hrun := run_env (s := s) (by simp) hr
  rw [List.map_cons, List.map_cons, List.map_replicate] at hrun
  refine ⟨_, hrun, rfl, rfl, rfl, rfl, rfl, rfl, rfl, rfl, rfl, fun t tk st rest htk hprog hact => ?_⟩
  have htk' : s.tasks[t]? = some tk := htk
  simp [step?, actStep, htk', hprog, hact, Conn.up]

def q0 : Cmd := ⟨⟨16, 0x05A0, false, 0⟩, true⟩

/-- F8: on the unchanged tree a Tridonic `send` cancelled while it waits for the gateway ends with
its `_outstanding` entry still registered although every caller has finished. -/
theorem f8_witness_old_code_leaks :
    let s0 : St := { cap := 2, conn := { limit := none, hsSteps := 2, fd := true } }
    (run? s0 [.spawn (mkTaskOldTridonicSend q0), .act 0, .act 0, .act 0, .act 0, .act 0,
              .raise 0 .cancelled, .act 0, .act 0]).map
      (fun s => (s.tasks.all Task.finished, s.lock, s.inner, s.slots.length)) = some (true, none, [], 1) := by
  decide

/-- the same schedule on the repaired program leaves nothing behind -/
theorem f8_fixed_code_clean :
    let s0 : St := { cap := 2, conn := { limit := none, hsSteps := 2, fd := true } }
    (run? s0 [.spawn (mkTask .tridonic (.send q0 true)), .act 0, .act 0, .act 0, .act 0, .act 0,
              .raise 0 .cancelled, .act 0, .act 0, .act 0]).map
      (fun s => (s.tasks.all Task.finished, s.lock, s.inner, s.slots.length)) = some (true, none, [], 0) := by
  decide

/-- F9: on the unchanged tree, reconnect limit 1: after the loss and one failed attempt the
driver has given up (no retry pending) and the callbacks are `connected, disconnected` only. -/
theorem f9_witness_old_code_silent :
    (Conn.run Conn.stepOld { limit := some 1, hsSteps := 2 } [.connect, .lose, .timer]).map
      (fun c => (c.cbs, c.pending)) = some ([.connected, .disconnected], false) := by
  decide

/-- the repaired `_reconnect` reports `failed`, after exactly one failed attempt -/
theorem f9_fixed_code_reports :
    (Conn.run Conn.step { limit := some 1, hsSteps := 2 } [.connect, .lose, .timer]).map
      (fun c => (c.cbs, c.pending, c.failedAfter)) = some ([.connected, .disconnected, .failed], false, [1]) := by
  decide

/-! ## non-vacuity of the connection theorems -/

/-- limit 1: `connect()`, loss, one failed retry ⇒ `failed` (a run that reaches `failed`) -/
example :
    (Conn.run Conn.step { limit := some 1, hsSteps := 2 } [.connect, .hs, .hs, .lose, .timer]).map
      (fun c => (c.cbs, c.pending, c.count, c.failedAfter, c.langOK)) =
    some ([.connected, .disconnected, .failed], false, 0, [1], true) := by decide

/-- limit 1: `connect()`, loss, device back, retry ⇒ `connected` again, handshake repeated, up -/
example :
    (Conn.run Conn.step { limit := some 1, hsSteps := 2 } [.connect, .hs, .hs, .lose, .back, .timer, .hs, .hs]).map
      (fun c => (c.cbs, c.up, c.count, c.failedAfter, c.langOK)) =
    some ([.connected, .disconnected, .connected], true, 0, [], true) := by decide

/-- the limit is per outage: limit 2, the first outage uses one failed attempt and recovers, the
second outage still gets its full two attempts before `failed` (a lifetime budget would report
`failed` after one) -/
example :
    (Conn.run Conn.step { limit := some 2, hsSteps := 0 }
      [.connect, .lose, .timer, .back, .timer, .lose, .timer, .timer]).map
      (fun c => (c.cbs, c.pending, c.failedAfter)) =
    some ([.connected, .disconnected, .connected, .disconnected, .failed], false, [2]) := by decide

/-- … and after one failed attempt of the second outage a retry is still pending -/
example :
    (Conn.run Conn.step { limit := some 2, hsSteps := 0 }
      [.connect, .lose, .timer, .back, .timer, .lose, .timer]).map
      (fun c => (c.cbs, c.pending, c.count, c.attempts)) =
    some ([.connected, .disconnected, .connected, .disconnected], true, 2, 1) := by decide

/-- the hypotheses of the theorems are satisfiable: the default driver object is fresh for every limit and
handshake length -/
example (limit : Option Nat) (hsSteps : Nat) : ({ limit := limit, hsSteps := hsSteps } : Conn).fresh :=
  ⟨rfl, rfl, rfl, rfl, rfl, rfl⟩

/-- the interleaving model reaches a reconnection through `step?`, with a caller waiting across the outage -/
example :
    let s0 : St := { cap := 2, conn := { limit := some 1, hsSteps := 2 } }
    (run? s0 [.env .connect, .env .hs, .spawn (mkTask .tridonic (.send q0 true)), .env .hs, .act 0,
              .env .lose, .env .back, .env .timer, .env .hs, .env .hs, .act 0]).map
      (fun s => (s.conn.cbs, s.conn.up, s.tasks.map (·.prog.length))) =
    some ([.connected, .disconnected, .connected], true, [8]) := by decide

/-- a send queued across an outage completes after the recovery: the caller takes the lock, the
device is lost, returns, the handshake is repeated, and with the gateway answering (echo, answer
for sequence number 1) all ten steps of the Tridonic `send` run; everything is released -/
example :
    let s0 : St := { cap := 2, conn := { limit := some 1, hsSteps := 2 } }
    (run? s0 [.env .connect, .env .hs, .env .hs, .spawn (mkTask .tridonic (.send q0 true)), .act 0,
              .env .lose, .env .back, .env .timer, .env .hs, .env .hs,
              .act 0, .act 0, .act 0, .act 0, .deliver 1 .echo, .act 0, .deliver 1 .answer, .act 0,
              .act 0, .act 0, .act 0]).map
      (fun s => (s.conn.cbs, s.tasks.all Task.finished && s.lock.isNone && s.inner.isEmpty && s.slots.isEmpty,
                 measure s)) =
    some ([.connected, .disconnected, .connected], true, 0) := by decide

end DaliVerif.Props.C17
