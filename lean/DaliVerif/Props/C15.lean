import DaliVerif.Proofs.AsyncProg
/-!
# C15 — async drivers keep transactions atomic and device-type prefixes adjacent

All theorems are about the interleaving model `Model/Async.lean` running the
caller programs of `Model/CallerProgram.lean`: *any* number of callers spawned
at *any* point, *every* schedule of their actions, exceptions, cancellations,
gateway reports and connection events (`run? s0 ls = some s`).  The only
hypothesis on a schedule is that the spawned callers run well-formed programs
(`Label.ok`); `caller_programs_wf` discharges it for `send` / `run_sequence`
of all four drivers.
-/
namespace DaliVerif.Props.C15
open DaliVerif.Async

/-- a schedule whose callers are calls of `send` / `run_sequence` on driver `d` -/
def DriverSchedule (d : Driver) (ls : List Label) : Prop :=
  ∀ l ∈ ls, match l with
    | .spawn tk => ∃ c, tk = mkTask d c
    | _ => True

/-- `caller_programs_wf`: for every driver, every command (any frame, device type, send-twice,
query, exceptions on/off) and every sequence (any list of commands, sleeps, progress items) the
program of `send` / `run_sequence` is statically well bracketed: every normal, exceptional and
cancellation exit releases exactly what is held, frames are written only under the transaction
lock and the inner serialiser, and every device-type frame follows its EnableDeviceType inside
the same locked region. -/
theorem caller_programs_wf (d : Driver) (c : Call) : (mkTask d c).ok = true := mkTask_ok d c

theorem driverSchedule_ok {d : Driver} {ls : List Label} (h : DriverSchedule d ls) : ∀ l ∈ ls, l.ok := by
  intro l hl
  have := h l hl
  cases l with
  | spawn tk => obtain ⟨c, rfl⟩ := this; exact mkTask_ok d c
  | _ => trivial

/-- `mutex_inv`: in every reachable state the lock/wire log is a legal history of a one-holder
lock ending with the current holder (so every acquisition found the lock free and every release
was by the holder), and a task that is not the holder is outside its critical region: its next
action is neither a write nor a release. -/
theorem mutex_inv {s0 s : St} {ls : List Label} (h0 : s0.initial) (hl : ∀ l ∈ ls, l.ok)
    (h : run? s0 ls = some s) :
    holderR s.log = some s.lock ∧
    ∀ t tk st rest, s.tasks[t]? = some tk → tk.prog = st :: rest → s.lock ≠ some t →
      st.act ≠ .rel ∧ ∀ f, st.act ≠ .write f := by
  have hI := reachable_inv h0 hl h
  refine ⟨hI.log, fun t tk st rest ht hp hne => ?_⟩
  obtain ⟨-, -, r', heff, -⟩ := wf_cons (hp ▸ (hI.tasks t tk ht).wf)
  have hlk : (res s t).lock ≠ true := fun hh => hne (res_lock.mp hh)
  exact ⟨fun ha => hlk (eff_rel (ha ▸ heff)).1, fun f ha => hlk (eff_write (ha ▸ heff)).1⟩

/-- `writes_by_holder`: whenever a task puts a frame on the wire it holds the transaction lock
(and the driver's inner serialiser). -/
theorem writes_by_holder {s0 s s' : St} {ls : List Label} (h0 : s0.initial) (hl : ∀ l ∈ ls, l.ok)
    (h : run? s0 ls = some s) {t : Tid} {tk : Task} {st : Step} {rest : List Step} {f : WFrame}
    (ht : s.tasks[t]? = some tk) (hp : tk.prog = st :: rest) (ha : st.act = .write f)
    (_hstep : step? s (.act t) = some s') : s.lock = some t ∧ t ∈ s.inner := by
  obtain ⟨-, -, r', heff, -⟩ := wf_cons (hp ▸ ((reachable_inv h0 hl h).tasks t tk ht).wf)
  obtain ⟨hlk, hin, -⟩ := eff_write (ha ▸ heff)
  exact ⟨res_lock.mp hlk, res_inner.mp hin⟩

/-- `wire_well_bracketed`: the lock/wire events, oldest first, are a word of the regular language
`(acq_t · write_t* · rel_t)*` (followed by at most one open unit of the current holder): the
frames of one `send` or of one whole sequence are contiguous, nothing of another caller in
between. -/
theorem wire_well_bracketed {s0 s : St} {ls : List Label} (h0 : s0.initial) (hl : ∀ l ∈ ls, l.ok)
    (h : run? s0 ls = some s) : Bracketed none s.log.reverse s.lock :=
  bracketed_of_holderR (reachable_inv h0 hl h).log

/-- `edt_adjacent`: on the wire (oldest first) every frame whose command needs a device type is
immediately preceded by EnableDeviceType of that type written by the same caller. -/
theorem edt_adjacent {s0 s : St} {ls : List Label} (h0 : s0.initial) (hl : ∀ l ∈ ls, l.ok)
    (h : run? s0 ls = some s) : EdtAdjacent s.wire :=
  edtAdjacent_of_wireEdtR (reachable_inv h0 hl h).wire

/-- `edt_adjacent` for the four drivers, with no side condition left: every schedule of `send` /
`run_sequence` callers. -/
theorem edt_adjacent_drivers (d : Driver) {s0 s : St} {ls : List Label} (h0 : s0.initial)
    (hd : DriverSchedule d ls) (h : run? s0 ls = some s) : EdtAdjacent s.wire :=
  edt_adjacent h0 (driverSchedule_ok hd) h

/-- `lock_free_at_end`: when every caller has finished — normally, by an exception or by
cancellation — the transaction lock is free (and so are the inner serialiser and the table of
outstanding commands). -/
theorem lock_free_at_end {s0 s : St} {ls : List Label} (h0 : s0.initial) (hl : ∀ l ∈ ls, l.ok)
    (h : run? s0 ls = some s) (hfin : ∀ (t : Tid) (tk : Async.Task), s.tasks[t]? = some tk → tk.prog = []) :
    s.lock = none ∧ s.inner = [] ∧ s.slots = [] := by
  have hI := reachable_inv h0 hl h
  -- a finished task passes `wf` with what it holds, so it holds nothing; a task that does not exist neither
  have key : ∀ t, s.lock ≠ some t ∧ t ∉ s.inner ∧ t ∉ s.owners := fun t => by
    have hfree : (res s t).free = true := by
      by_cases hlt : t < s.tasks.length
      · have hget : s.tasks[t]? = some s.tasks[t] := List.getElem?_eq_getElem hlt
        have hw := (hI.tasks t _ hget).wf
        rw [hfin t _ hget] at hw
        exact hw
      · rw [hI.bound t (Nat.le_of_not_lt hlt)]; rfl
    simpa [Res.free, res, and_assoc] using hfree
  exact ⟨Option.eq_none_iff_forall_ne_some.mpr fun t => (key t).1,
    List.eq_nil_iff_forall_not_mem.mpr fun t => (key t).2.1,
    List.map_eq_nil_iff.mp (List.eq_nil_iff_forall_not_mem.mpr fun t => (key t).2.2)⟩

/-- `release_on_raise_or_cancel` (and `sequence_closed`): when an action of a task raises out of
the call or the task is cancelled while blocked in it, what remains of the task's program is
exactly the clean-up of its `finally` / `async with` blocks: synchronous actions only, which
release everything the task holds (for a sequence they include `close`: `caller_programs_wf` checks every handler of `seqBody`). -/
theorem release_on_raise_or_cancel {s0 s s' : St} {ls : List Label} (h0 : s0.initial) (hl : ∀ l ∈ ls, l.ok)
    (h : run? s0 ls = some s) {t : Tid} {e : Err} {tk : Task} (ht : s.tasks[t]? = some tk)
    (hnoretry : tk.retry = none) (hstep : step? s (.raise t e) = some s') :
    ∃ tk', s'.tasks[t]? = some tk' ∧ tk'.exc = some e ∧
      cleanupOK (res s' t) (tk'.prog.map (·.act)) = true := by
  have hI := reachable_inv h0 hl h
  obtain ⟨tk0, st, rest, ht0, hp, hcr, ⟨rfl, -⟩ | ⟨body, -, hb, -⟩⟩ :=
    raiseStep_cases (show raiseStep s t e = some s' from hstep) <;> cases ht.symm.trans ht0
  · refine ⟨{ tk with prog := plain st.h, exc := some e }, by simp [setTask, getElem?_lt ht], rfl, ?_⟩
    have : (plain st.h).map (·.act) = st.h := by simp [plain, Function.comp_def]
    rw [this]
    exact (wf_cons (hp ▸ (hI.tasks t tk ht).wf)).1 hcr
  · rw [hnoretry] at hb; cases hb

/-- The caller whose turn it is (the lock holder, or any caller while the lock is free) is never held up by
another caller: its next action is enabled unless it waits for a gateway report, needs the connection while it
is down, or is a refusal.  Not the transaction lock, not the inner serialiser, not the table of sequence numbers. -/
theorem turn_enabled {s : St} (hI : Inv s) (hcap : 1 ≤ s.cap) {t : Tid} {tk : Task} {st : Step} {rest : List Step}
    (ht : s.tasks[t]? = some tk) (hp : tk.prog = st :: rest) (hlk : s.lock = none ∨ s.lock = some t) :
    (step? s (.act t)).isSome = true ∨ (∃ m timed, st.act = .await m timed) ∨
      ((st.act = .connWait ∨ st.act = .connCheck) ∧ s.conn.up = false) ∨
      ((∃ f, st.act = .write f) ∧ s.conn.fd = false) ∨ st.act = .refuse := by
  obtain ⟨-, -, r', heff, -⟩ := wf_cons (hp ▸ (hI.tasks t tk ht).wf)
  simp only [step?, actStep, ht, hp]
  cases hact : st.act with
  | acq =>
    have hfree : s.lock = none := hlk.resolve_right fun h1 => by
      have := (eff_acq (hact ▸ heff)).1; rw [res_lock.mpr h1] at this; cases this
    exact Or.inl (by simp [hfree])
  | iacq =>
    -- only the lock holder can hold the inner serialiser: that is `t`, which does not hold it
    obtain ⟨hlt, hnin, -⟩ := eff_iacq (hact ▸ heff)
    have hempty : s.inner = [] := List.eq_nil_iff_forall_not_mem.mpr fun x hx => by
      have := (res_lock.mp hlt).symm.trans (hI.lock_of_inner hx)
      cases this
      rw [res_inner.mpr hx] at hnin; cases hnin
    exact Or.inl (by simp [hempty, Nat.lt_of_lt_of_le Nat.zero_lt_one hcap])
  | slot => exact Or.inl (by simp [hI.slots_empty ht hp hact])
  | write f =>
    cases hfd : s.conn.fd with
    | true => exact Or.inl rfl
    | false => exact Or.inr (Or.inr (Or.inr (Or.inl ⟨⟨f, rfl⟩, rfl⟩)))
  | connWait =>
    cases hup : s.conn.up with
    | true => exact Or.inl rfl
    | false => exact Or.inr (Or.inr (Or.inl ⟨Or.inl rfl, rfl⟩))
  | connCheck =>
    cases hup : s.conn.up with
    | true => exact Or.inl rfl
    | false => exact Or.inr (Or.inr (Or.inl ⟨Or.inr rfl, rfl⟩))
  | await m timed => exact Or.inr (Or.inl ⟨m, timed, rfl⟩)
  | refuse => exact Or.inr (Or.inr (Or.inr (Or.inr rfl)))
  | poll => refine Or.inl ?_; dsimp only; split <;> rfl
  | rel | irel | unslot | flush | flush1 | sleep | resume | close => exact Or.inl rfl

/-- with an unfinished caller there is a caller whose turn it is: the lock holder, which cannot have finished, or
anybody while the lock is free -/
theorem exists_turn {s : St} (hI : Inv s) {u : Tid} {tku : Task} (hu : s.tasks[u]? = some tku)
    (hunf : tku.prog ≠ []) :
    ∃ t tk st rest, s.tasks[t]? = some tk ∧ tk.prog = st :: rest ∧ (s.lock = none ∨ s.lock = some t) := by
  cases hlk : s.lock with
  | none =>
    cases hp : tku.prog with
    | nil => exact absurd hp hunf
    | cons st rest => exact ⟨u, tku, st, rest, hu, hp, Or.inl rfl⟩
  | some t =>
    have hlt := hI.holder_lt_length hlk
    have hgt : s.tasks[t]? = some s.tasks[t] := List.getElem?_eq_getElem hlt
    cases hp : (s.tasks[t]).prog with
    | nil =>
      have hw := (hI.tasks t _ hgt).wf
      simp [hp, wf, wfSeg, Res.free, res_lock.mpr hlk] at hw
    | cons st rest => exact ⟨t, _, st, rest, hgt, hp, Or.inr rfl⟩

/-- `progress_partial` (the lock part of `progress`): in a reachable state with unfinished callers
there is always a task that can take a step or that waits for the environment only (a gateway
report, the connection, a timer) — never a cycle of tasks blocked on the transaction lock or the
inner serialiser. -/
theorem progress_partial {s0 s : St} {ls : List Label} (h0 : s0.initial) (hl : ∀ l ∈ ls, l.ok)
    (h : run? s0 ls = some s) (hcap : 1 ≤ s.cap) {u : Tid} {tku : Task} (hu : s.tasks[u]? = some tku)
    (hunf : tku.prog ≠ []) :
    ∃ t tk st rest, s.tasks[t]? = some tk ∧ tk.prog = st :: rest ∧
      ((step? s (.act t)).isSome = true ∨ st.act.pure = true ∨ (∃ f, st.act = .write f) ∨ st.act = .refuse) := by
  have hI := reachable_inv h0 hl h
  obtain ⟨t, tk, st, rest, ht, hp, hlk⟩ := exists_turn hI hu hunf
  refine ⟨t, tk, st, rest, ht, hp, ?_⟩
  rcases turn_enabled hI hcap ht hp hlk with hx | ⟨m, timed, ha⟩ | ⟨ha | ha, -⟩ | ⟨hw, -⟩ | hr
  · exact Or.inl hx
  · exact Or.inr (Or.inl (by rw [ha]; rfl))
  · exact Or.inr (Or.inl (by rw [ha]; rfl))
  · exact Or.inr (Or.inl (by rw [ha]; rfl))
  · exact Or.inr (Or.inr (Or.inl hw))
  · exact Or.inr (Or.inr (Or.inr hr))

/-- `progress` (1), connection up: in a reachable state with unfinished callers and `connected` set,
some caller can take a step, or the caller whose turn it is (the lock holder, or any caller if the
lock is free) is blocked in a wait for a gateway report — nothing else can block: not the
transaction lock, not the inner serialiser, not the table of sequence numbers, not the
connection. -/
theorem progress_up {s0 s : St} {ls : List Label} (h0 : s0.initial) (hl : ∀ l ∈ ls, l.ok)
    (h : run? s0 ls = some s) (hcap : 1 ≤ s.cap) (hup : s.conn.up = true) {u : Tid} {tku : Task}
    (hu : s.tasks[u]? = some tku) (hunf : tku.prog ≠ []) :
    ∃ t tk st rest, s.tasks[t]? = some tk ∧ tk.prog = st :: rest ∧
      ((step? s (.act t)).isSome = true ∨ (∃ m timed, st.act = .await m timed) ∨ st.act = .refuse) := by
  have hI := reachable_inv h0 hl h
  obtain ⟨t, tk, st, rest, ht, hp, hlk⟩ := exists_turn hI hu hunf
  refine ⟨t, tk, st, rest, ht, hp, ?_⟩
  have hfd : s.conn.fd = true := by
    simp only [Conn.Conn.up, Bool.and_eq_true] at hup; exact hup.1
  rcases turn_enabled hI hcap ht hp hlk with hx | hx | ⟨-, hdown⟩ | ⟨-, hdown⟩ | hr
  · exact Or.inl hx
  · exact Or.inr (Or.inl hx)
  · rw [hup] at hdown; cases hdown
  · rw [hfd] at hdown; cases hdown
  · exact Or.inr (Or.inr hr)

/-- no caller's next step is the refusal of a frame its gateway cannot carry.  A pending refusal is not a hang
(`refusal_leaves_the_call`: its exception is always enabled and takes the caller to its clean-up), it is simply
not an `act` step; `progress` and `nobody_hangs` speak about the others. -/
def NoRefusalPending (s : St) : Prop :=
  ∀ (t : Tid) (tk : Task) (st : Step) (rest : List Step),
    s.tasks[t]? = some tk → tk.prog = st :: rest → st.act ≠ .refuse

/-- A refusal leaves the call, whatever the `exceptions` switch says: `UnsupportedFrameTypeError` is not a
CommunicationError, so the HID retry loop (`retry`) is NOT entered - the caller goes to the clean-up of its exit
with the exception recorded; and there is no other way past a refusal. -/
theorem refusal_leaves_the_call {s : St} {t : Tid} {tk : Task} {st : Step} {rest : List Step}
    (ht : s.tasks[t]? = some tk) (hp : tk.prog = st :: rest) (ha : st.act = .refuse) :
    step? s (.act t) = none ∧
    step? s (.raise t .unsupported) =
      some (setTask s t { tk with prog := plain st.h, exc := some .unsupported }) := by
  constructor
  · simp [step?, actStep, ht, hp, ha]
  · simp only [step?, raiseStep, ht, hp, ha, Act.canRaise]
    cases tk.retry <;> rfl

/-- `progress` (2): with `connected` set and a gateway that answers every write
(`GatewayAnswers`: the report each waiting caller waits for is there — the environment-liveness
assumption, stated as a hypothesis), a reachable state with an unfinished caller always has an
enabled caller step, and that step strictly decreases the number of caller steps still to run. -/
theorem progress {s0 s : St} {ls : List Label} (h0 : s0.initial) (hl : ∀ l ∈ ls, l.ok)
    (h : run? s0 ls = some s) (hcap : 1 ≤ s.cap) (hup : s.conn.up = true) (hgw : GatewayAnswers s)
    (hnr : NoRefusalPending s)
    {u : Tid} {tku : Task} (hu : s.tasks[u]? = some tku) (hunf : tku.prog ≠ []) :
    ∃ t s', step? s (.act t) = some s' ∧ measure s' + 1 = measure s := by
  obtain ⟨t, tk, st, rest, ht, hp, hx⟩ := progress_up h0 hl h hcap hup hu hunf
  have hen : (step? s (.act t)).isSome = true := by
    rcases hx with hx | ⟨m, timed, ha⟩ | hr
    · exact hx
    · obtain ⟨mail', hm⟩ := hgw t tk st rest m timed ht hp ha
      simp [step?, actStep, ht, hp, ha, hm]
    · exact absurd hr (hnr t tk st rest ht hp)
  cases hs : step? s (.act t) with
  | none => rw [hs] at hen; cases hen
  | some s' => exact ⟨t, s', hs, act_measure hs⟩

/-- `progress` (3), termination bound: in a schedule without exceptions, cancellations and new
callers, the caller steps taken are exactly the decrease of the measure — no schedule keeps the
callers busy for more than `measure s` steps, and when that many have been taken every caller has
finished.  With (2): under a fair scheduler, a connected driver and an answering gateway, every
caller completes. -/
theorem caller_steps_bounded {s s' : St} {ls : List Label} (hf : ∀ l ∈ ls, l.faultFree = true)
    (h : run? s ls = some s') :
    nActs ls + measure s' = measure s ∧
    (nActs ls = measure s → ∀ (t : Tid) (tk : Task), s'.tasks[t]? = some tk → tk.prog = []) := by
  have hm := run_measure hf h
  refine ⟨hm, fun he => measure_zero_iff.mp (by omega)⟩

/-- `progress` (4), nobody hangs: a reachable state in which no caller can move, with `connected`
set and the gateway having answered, has no unfinished caller. -/
theorem nobody_hangs {s0 s : St} {ls : List Label} (h0 : s0.initial) (hl : ∀ l ∈ ls, l.ok)
    (h : run? s0 ls = some s) (hcap : 1 ≤ s.cap) (hup : s.conn.up = true) (hgw : GatewayAnswers s)
    (hnr : NoRefusalPending s)
    (hq : Quiescent s) : ∀ (t : Tid) (tk : Task), s.tasks[t]? = some tk → tk.prog = [] := by
  intro u tku hu
  cases hp : tku.prog with
  | nil => rfl
  | cons st rest =>
    obtain ⟨t, s', hs, _⟩ := progress h0 hl h hcap hup hgw hnr hu (by rw [hp]; simp)
    rw [hq t] at hs; cases hs

def writesOf : List Step → List WFrame
  | [] => []
  | st :: p => match st.act with
    | .write f => f :: writesOf p
    | _ => writesOf p

theorem writesOf_append (p q : List Step) : writesOf (p ++ q) = writesOf p ++ writesOf q := by
  induction p with
  | nil => rfl
  | cons st p ih =>
    simp only [List.cons_append, writesOf]
    cases st.act <;> simp [ih]

theorem writesOf_plain {l : List Act} (h : l.all Act.isCleanup = true) : writesOf (plain l) = [] := by
  induction l with
  | nil => rfl
  | cons a l ih =>
    simp only [List.all_cons, Bool.and_eq_true] at h
    rcases isCleanup_cases h.1 with rfl | rfl | rfl | rfl <;> exact ih h.2

/-- the unit of one HID `send`: EnableDeviceType when the command needs a device type, then the
command (the hasseb driver writes a send-twice frame twice itself) -/
def unitFrames (d : Driver) (c : Cmd) : List WFrame :=
  (if c.frame.dt = 0 then [] else [edtFrame c.frame.dt]) ++
  (if d = .hasseb ∧ c.frame.twice = true then [c.frame, { c.frame with dt := 0 }] else [c.frame])

theorem writesOf_rawSend (d : Driver) (hd : d = .tridonic ∨ d = .hasseb) (c : Cmd) (out : List Act)
    (hc : d.carries c.frame = true) :
    writesOf (rawSend d c out) =
      (if d = .hasseb ∧ c.frame.twice = true then [c.frame, { c.frame with dt := 0 }] else [c.frame]) := by
  unfold rawSend
  simp only [hc, Bool.not_true, Bool.false_eq_true, if_false]
  rcases hd with rfl | rfl
  · cases h : c.frame.twice <;> simp [tridonicRaw, writesOf, h]
  · cases h : c.frame.twice <;> cases c.query <;> simp [hassebRaw, writesOf, h]

/-- a frame length the gateway cannot carry: the send writes NOTHING (its only step is the refusal) -/
theorem refused_writes_nothing (d : Driver) (c : Cmd) (out : List Act) (hc : d.carries c.frame = false) :
    writesOf (rawSend d c out) = [] ∧ rawSend d c out = [ { act := .refuse, h := out } ] := by
  unfold rawSend
  simp [hc, writesOf]

theorem writesOf_withEdt (d : Driver) (hd : d = .tridonic ∨ d = .hasseb) (c : Cmd) (out : List Act)
    (hc : d.carries c.frame = true) :
    writesOf (withEdt d c out) = unitFrames d c := by
  unfold withEdt unitFrames
  by_cases h : c.frame.dt = 0
  · simp only [h, if_true, List.nil_append]; exact writesOf_rawSend d hd c out hc
  · simp only [h, if_false, writesOf_append, writesOf_rawSend d hd c out hc,
      writesOf_rawSend d hd (edtCmd c.frame.dt) out (carries_edt d _)]
    rcases hd with rfl | rfl <;> simp [edtCmd, edtFrame]

theorem mem_plain {l : List Act} (h : l.all Act.isCleanup = true) : ∀ x ∈ plain l, x.act.isCleanup = true := by
  intro x hx
  simp only [plain, List.mem_map] at hx
  obtain ⟨a, ha, rfl⟩ := hx
  exact (List.all_eq_true.mp h) a ha

/-- the caller whose retry body is set is a HID `send` with exceptions off -/
theorem retry_body_of {d : Driver} {call : Call} {body : List Step} (h : (mkTask d call).retry = some body) :
    (d = .tridonic ∨ d = .hasseb) ∧ ∃ c, call = .send c false ∧ body = withEdt d c [Act.rel] ++ [{ act := .rel }] := by
  cases call with
  | seq items => cases d <;> simp [mkTask] at h
  | send c exc =>
    cases d <;> cases exc <;> simp [mkTask] at h
    · exact ⟨Or.inl rfl, c, rfl, h.symm⟩
    · exact ⟨Or.inr rfl, c, rfl, h.symm⟩

/-- `retry_resends_whole_unit`: in every reachable state of every schedule
of `send` / `run_sequence` callers, when a CommunicationError hits a caller whose `send` runs with exceptions
off — at ANY step of its unit: during the EnableDeviceType prefix or during the command itself, at the write or
in a wait — the caller does not leave the call; what remains of its program is the synchronous clean-up back to
the loop head (no frame written), then the WHOLE unit again and the release of the lock: the frames of the
retried unit are exactly `unitFrames d c`, i.e. for a command that needs a device type the first frame written
after the failure is EnableDeviceType again, never the bare command.  The lock and the wire log are untouched
by the failure itself, so with `edt_adjacent` the device-type frame of the retry is again directly preceded by
its prefix on the wire. -/
theorem retry_resends_whole_unit (d : Driver) {s0 s s' : St} {ls : List Label} (h0 : s0.initial)
    (hd : DriverSchedule d ls) (h : run? s0 ls = some s) {t : Tid} {tk : Async.Task}
    (ht : s.tasks[t]? = some tk) (hretry : tk.retry.isSome = true)
    (hstep : step? s (.raise t .comm) = some s') :
    ∃ (c : Cmd) (st : Step) (rest cleanup : List Step) (tk' : Async.Task),
      tk.prog = st :: rest ∧ st.act.canComm = true ∧
      s'.tasks[t]? = some tk' ∧ tk'.exc = tk.exc ∧ tk'.retry = tk.retry ∧ s'.lock = s.lock ∧ s'.log = s.log ∧
      tk'.prog = cleanup ++ withEdt d c [Act.rel] ++ [{ act := .rel }] ∧
      (∀ x ∈ cleanup, x.act.isCleanup = true) ∧ writesOf cleanup = [] ∧
      (d.carries c.frame = true → writesOf (withEdt d c [Act.rel]) = unitFrames d c) ∧
      (c.frame.dt ≠ 0 → (unitFrames d c).head? = some (edtFrame c.frame.dt)) ∧
      edtOK none (withEdt d c [Act.rel]) = true := by
  have hI := reachable_inv h0 (driverSchedule_ok hd) h
  -- the retry body of every caller is the one `send` / `run_sequence` of driver `d` gave it
  have hR := run?_invariant (P := fun s => ∀ (t : Tid) (tk : Async.Task), s.tasks[t]? = some tk →
      ∃ c, tk.retry = (mkTask d c).retry)
    (fun l hm _ _ hP hs => step?_retry (P := fun r => ∃ c, r = (mkTask d c).retry) (fun tk e => by
      have := hd l hm
      subst e
      obtain ⟨c, rfl⟩ := this
      exact ⟨c, rfl⟩) hP hs)
    (by intro u tku hu; rw [h0.1] at hu; cases hu) h
  obtain ⟨tk0, st, rest, ht0, hp, -, hcase⟩ := raiseStep_cases (show raiseStep s t .comm = some s' from hstep)
  cases ht.symm.trans ht0
  cases hb : tk.retry with
  | none => rw [hb] at hretry; cases hretry
  | some body =>
    obtain ⟨call, hcall⟩ := hR t tk ht
    obtain ⟨hdd, c, -, hbody⟩ := retry_body_of (hcall.symm.trans hb)
    rcases hcase with ⟨-, hside⟩ | ⟨body', -, hb', hcc, rfl⟩
    · -- leaving the call is impossible for `comm` while a retry body is set
      rcases hside with h1 | h1
      · exact absurd rfl h1
      · rw [hb] at h1; cases h1
    · cases hb.symm.trans hb'
      have hro := (wf_cons (hp ▸ (hI.tasks t tk ht).wf)).2.1 hretry hcc
      simp only [retryOK, Bool.and_eq_true] at hro
      refine ⟨c, st, rest, plain st.hr, { tk with prog := plain st.hr ++ body }, hp, hcc,
        by simp [setTask, getElem?_lt ht], rfl, hb, rfl, rfl, ?_, mem_plain hro.1, writesOf_plain hro.1,
        fun hc => writesOf_withEdt d hdd c _ hc, fun hne => by simp [unitFrames, hne], ?_⟩
      · rw [hbody, List.append_assoc]
      · obtain ⟨x, hx⟩ := withEdt_seg false d c (out := [Act.rel]) rfl (Or.inl rfl) none
        simp [edtOK, hx.2]

/-! ## non-vacuity -/

example :
    let c6 : Cmd := ⟨⟨16, 0x03ED, false, 6⟩, true⟩
    (mkTask .tridonic (.send c6 true)).ok = true ∧ (mkTask .luba (.seq [.cmd c6, .sleep])).ok = true := by
  exact ⟨mkTask_ok _ _, mkTask_ok _ _⟩

/-- a retried unit in the model: Tridonic `send(QueryGearType, exceptions=False)`, the gateway is lost while the
command itself is in flight (the EnableDeviceType prefix had completed), comes back, the handshake is repeated:
the wire holds prefix + command twice, everything is released -/
example :
    let c6 : Cmd := ⟨⟨16, 0x03ED, false, 6⟩, true⟩
    let s0 : St := { cap := 2, conn := { limit := none, hsSteps := 2 } }
    (run? s0 ([.env .connect, .env .hs, .env .hs, .spawn (mkTask .tridonic (.send c6 false)),
              .act 0, .act 0, .act 0, .act 0, .act 0, .deliver 1 .echo, .act 0, .deliver 1 .answer, .act 0, .act 0, .act 0,
              .act 0, .act 0, .act 0, .act 0,
              .env .lose, .raise 0 .comm, .act 0, .act 0,
              .env .back, .env .timer, .env .hs, .env .hs,
              .act 0, .act 0, .act 0, .act 0, .deliver 3 .echo, .act 0, .deliver 3 .answer, .act 0, .act 0, .act 0,
              .act 0, .act 0, .act 0, .act 0, .deliver 4 .echo, .act 0, .deliver 4 .answer, .act 0, .act 0, .act 0,
              .act 0])).map
      (fun s => (s.wire.map (·.2.data), s.tasks.all Task.finished && s.lock.isNone && s.inner.isEmpty && s.slots.isEmpty)) =
    some ([0xC106, 0x03ED, 0xC106, 0x03ED], true) := by decide

/-- a refused send in the model: hasseb `send(<24-bit frame>, exceptions=False)` - the lock is taken, the refusal
cannot be passed (`act` is not enabled), its exception is; after the clean-up the caller has finished with the
exception recorded, NOTHING is on the wire and the lock is free: no retry although exceptions are off -/
example :
    let c24 : Cmd := ⟨⟨24, 0xC10000, false, 0⟩, false⟩
    let s0 : St := { cap := 1, conn := { limit := none, hsSteps := 0 } }
    (mkTask .hasseb (.send c24 false)).ok = true ∧
    (run? s0 [.env .connect, .spawn (mkTask .hasseb (.send c24 false)), .act 0, .act 0]).isNone = true ∧
    (run? s0 [.env .connect, .spawn (mkTask .hasseb (.send c24 false)), .act 0, .raise 0 .unsupported, .act 0]).map
      (fun s => (s.wire.length, s.tasks.all Task.finished, s.lock.isNone,
                 s.tasks.map (fun tk => tk.exc == some Err.unsupported))) =
    some (0, true, true, [true]) := by decide

/-- K1 on the unchanged tree: the serial `send` without EnableDeviceType is NOT well formed -/
theorem k1_witness_old_serial_send :
    (mkTaskOldSerialSend .luba ⟨⟨16, 0x03ED, false, 6⟩, true⟩).ok = false := by decide

end DaliVerif.Props.C15
