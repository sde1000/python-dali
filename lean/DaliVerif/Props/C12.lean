import DaliVerif.Proofs.EventSpec
import DaliVerif.Props.C01
/-!
# C12 — event messages: scheme fields and instance-type resolution are exact
-/
set_option linter.unusedSimpArgs false
namespace DaliVerif.Props.C12
open DaliVerif Cmd Spec Frame

/-- the tie to the current tree: the regenerated event registries (`_Event._instance_types`,
`_PushbuttonEvent._event_classes`) are the ones parts 301/303/304 define, and 24-bit frames are tried as device
command first, then as event -/
theorem event_tables_ok :
    EventTablesOK Gen.tables ∧ lookup Gen.tables.framesizes 24 = some [.device, .event] := by
  decide +kernel

/-- decoding a 24-bit frame whose bit 16 is 0 is `_Event.from_frame`
(falling back to a bare `Command` for the reserved pattern) -/
theorem decode_event (T : Tables) (hfs : lookup T.framesizes 24 = some [.device, .event])
    (d dt : Nat) (m : Option InstMap) (h16 : d / 65536 % 2 = 0) :
    decode T 24 d dt m = (eventFromFrame T ⟨24, d⟩ m).getD (.generic 24 d) := by
  unfold decode
  simp only [hfs, List.findSome?_cons, deviceFromFrame_event T d h16]
  cases eventFromFrame T ⟨24, d⟩ m <;> rfl

/-- C12 — for every 24-bit event frame and every instance-type map: the decoded object reports exactly the source
fields the frame's addressing scheme carries (short address, instance number, device group, instance group,
instance type) and the ten bits of event information, interpreted by the class of the instance type
(push-button codes → named events, occupancy bits → movement / occupied / repeat / sensor flags, light →
illuminance, anything else → unknown carrying the data); frames with the reserved pattern are not events. -/
theorem event_decode_spec (T : Tables) (hE : EventTablesOK T)
    (hfs : lookup T.framesizes 24 = some [.device, .event])
    (d dt : Nat) (m : Option InstMap) (h16 : d / 65536 % 2 = 0) :
    observe (decode T 24 d dt m) = expectedObs d m := by
  rw [decode_event T hfs d dt m h16, ← eventFromFrame_spec T hE d m]
  cases eventFromFrame T ⟨24, d⟩ m <;> rfl

/-- the same for the registries of the current tree -/
theorem event_decode_spec_gen (d dt : Nat) (m : Option InstMap) (h16 : d / 65536 % 2 = 0) :
    observe (decode Gen.tables 24 d dt m) = expectedObs d m :=
  event_decode_spec Gen.tables event_tables_ok.1 event_tables_ok.2 d dt m h16

/-- the instance-scheme frame that carries instance type `t`, instance number
`inum` and event information `info` -/
def instanceFrame (t inum info : Nat) : Nat := 8388608 + t * 131072 + 32768 + inum * 1024 + info

/-- resolution through the map = type in the frame: a device/instance frame whose (short address, instance
number) the map resolves to type `t` is to be reported with the same instance number, instance type and event
meaning as the instance-scheme frame that carries `t` itself.  Stated on the specification `expectedObs`;
`event_decode_spec` carries it over to `decode`. -/
theorem devinst_via_map (sa inum info : Nat) (t : Nat) (m : InstMap)
    (hsa : sa < 64) (hin : inum < 32) (hinfo : info < 1024) (ht : t < 32)
    (hm : m.getType sa inum = some (t : Int)) :
    (expectedObs (sa * 131072 + 32768 + inum * 1024 + info) (some m)).map
        (fun o => (o.instanceNumber, o.instanceType, o.meaning)) =
      (expectedObs (instanceFrame t inum info) none).map
        (fun o => (o.instanceNumber, o.instanceType, o.meaning)) := by
  have hr : ¬ (info ≥ 1024 ∨ t ≥ 32) := by omega
  exact obs_via_map _ _ sa inum info t m
    (eventFields_eventFrame (some sa) (some inum) none none t info _
      (by simp only [eventFrame, hr, hsa, hin, and_self, if_true, if_false]))
    (eventFields_eventFrame none (some inum) none none t info _
      (by simp only [eventFrame, instanceFrame, hr, hin, if_true, if_false])) hm

/-- ambiguous exactly when the map has no entry (`h23`, `h15`: the device/instance scheme) -/
theorem ambiguous_iff_absent (T : Tables) (hE : EventTablesOK T)
    (hfs : lookup T.framesizes 24 = some [.device, .event]) (d dt : Nat) (m : Option InstMap)
    (h16 : d / 65536 % 2 = 0) (h23 : d / 8388608 % 2 = 0) (h15 : d / 32768 % 2 = 1) :
    isAmbiguous (decode T 24 d dt m) = true ↔
      (m.bind fun mm => mm.getType (d / 131072 % 64) (d / 1024 % 32)) = none := by
  rw [decode_event T hfs d dt m h16, eventFromFrame_eq]
  simp only [h16, h23, h15, Nat.zero_ne_one, Nat.one_ne_zero, and_false, and_self, if_true, if_false]
  cases (m.bind fun mm => mm.getType (d / 131072 % 64) (d / 1024 % 32)) with
  | none => simp only [Option.getD_some, isAmbiguous]
  | some t => simp only [Option.getD_some, eventOfType_not_ambiguous, Bool.false_eq_true, reduceCtorEq]

/-- `retry_decode` of an ambiguous event with a map gives the same result as decoding the frame with that map
(and `None` if it is still ambiguous) -/
theorem retry_eq_direct (T : Tables) (hT : TableOK T) (d dt : Nat) (m : InstMap)
    (hd : d < 2 ^ 24) :
    retryDecode T (decode T 24 d dt none) m =
      if isAmbiguous (decode T 24 d 0 (some m)) then none else some (decode T 24 d 0 (some m)) := by
  unfold retryDecode
  rw [C01.encode_decode T hT 24 d dt none hd]

/-- `add_type`: an entry added (through any of the three argument forms, which all reduce to integers) is found
under its key, replaces an earlier entry for the same key and leaves every other key alone -/
theorem map_build (m : InstMap) (sa inum sa' inum' : Nat) (t : Int) :
    (m.addType sa inum t).getType sa' inum' =
      if (sa, inum) = (sa', inum') then some t else m.getType sa' inum' := by
  unfold InstMap.addType InstMap.getType
  by_cases h : (sa, inum) = (sa', inum')
  · simp [h]
  · have : ((sa, inum) == (sa', inum')) = false := by simpa using h
    simp [List.find?_cons, this, h]

/-! ### non-vacuity -/
example : observe (decode Gen.tables 24 ((5 <<< 17) ||| (1 <<< 15) ||| (3 <<< 10) ||| 6) 0
    (some [((5, 3), 3)])) =
    some ⟨some 5, some 3, none, none, some 3, .occupancy false true true false⟩ := by decide +kernel
example : observe (decode Gen.tables 24 (instanceFrame 1 7 11) 0 none) =
    some ⟨none, some 7, none, none, some 1, .pushbutton "LongPressRepeat"⟩ := by decide +kernel

end DaliVerif.Props.C12
