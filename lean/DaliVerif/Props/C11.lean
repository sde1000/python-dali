import DaliVerif.Proofs.MemValueLemmas
import DaliVerif.Proofs.Distinct
import DaliVerif.Gen.Memory
/-!
# C11 — memory values decode any raw bytes totally and per the DiiA/IEC layout

`Mem.*` is the model of the pure value interpretation of `dali/memory/*.py`
(`Model/MemValue.lean`; tied to the code exhaustively for 1- and 2-byte values, by boundary +
random strings for wider ones), `Spec.Mem.interpret` the reference interpretation written from
the documents' encoding rules, `Spec.Mem.memoryLayout` the independently transcribed memory map,
`Gen.memValues` / `Gen.memBanks` the tables regenerated from the working tree.

`layout_matches_standard` (kernel evaluation on every run) says the regenerated map *is* the
transcribed one, including each value's encoding kind and MASK/TMASK byte patterns; with the
generic `Mem.interpret_eq_spec` this gives `interpret_per_standard` / `interpret_total` for
every raw string, no enumeration.  Then: what the reference interpretation does (MASK / TMASK
exactly, out-of-range numbers Invalid, the documented encodings), and value→raw→value round trips.
-/
namespace DaliVerif.Props.C11
open DaliVerif DaliVerif.Mem DaliVerif.Spec.Mem

/-- "Each value sits at the bank, location range, access type and width that
IEC 62386-102 and DiiA parts 251-253 give it" — and has the documented
encoding kind, range, MASK/TMASK support and mask byte patterns: the row read
off every generated value equals the transcribed row, in order. -/
theorem layout_matches_standard :
    Gen.memValues.map rowOf = Spec.Mem.memoryLayout.map (fun r => some (unpin r)) := by
  rfl

/-- bank numbers, last accessible location, lock and latch support -/
theorem banks_match_standard : Gen.memBanks.map bankCore = Spec.Mem.memoryBanks := by
  rfl

/-- "no two values overlap": inside each bank all declared locations are distinct -/
theorem no_overlap : ∀ b ∈ Gen.memBanks, (bankAddrs Gen.memValues b.key).Nodup := by
  have h : ∀ b ∈ Gen.memBanks, distinctNat 0 (bankAddrs Gen.memValues b.key) = true := by decide +kernel
  exact fun b hb => (distinctNat_nodup _ 0 (h b hb)).2

/-- the bank's own location table (`bank.locations`, what `read_all` and
`factory_default_contents` walk) is exactly the union of its values' locations -/
theorem occupied_consistent : ∀ b ∈ Gen.memBanks, occupiedOK Gen.memValues b = true := by
  have h : Gen.memBanks.map (·.occupied) = Gen.memBanks.map (occupiedBy Gen.memValues ·.key) := by rfl
  exact fun b hb => occupiedOK_of_eq _ b (List.map_inj_left.mp h b hb)

/-- "lockable locations only exist in banks that have a lock byte" -/
theorem lockable_only_in_lock_banks : ∀ v ∈ Gen.memValues, lockableOK Gen.memBanks v = true := by
  decide +kernel

theorem row_exists (v : MemValue) (hv : v ∈ Gen.memValues) :
    ∃ r ∈ Spec.Mem.memoryLayout, rowOf v = some (unpin r) := by
  have h1 : rowOf v ∈ Gen.memValues.map rowOf := List.mem_map_of_mem hv
  rw [layout_matches_standard] at h1
  obtain ⟨r, hr, he⟩ := List.mem_map.mp h1
  exact ⟨r, hr, he.symm⟩

/-- "mask patterns match width": the byte patterns the metaclass computed at
declaration time are all-ones / all-ones-minus-one over the payload (the bytes
after the scale byte for scaled values), and absent when not supported. -/
theorem mask_patterns_match_width (v : MemValue) (hv : v ∈ Gen.memValues) :
    ∃ r ∈ Spec.Mem.memoryLayout, rowOf v = some (unpin r) ∧
      v.mask = (if v.maskSupported then some (allOnes (payloadLen r.kind r.width)) else none) ∧
      v.tmask = (if v.tmaskSupported then some (allOnesMinusOne (payloadLen r.kind r.width)) else none) := by
  obtain ⟨r, hr, he⟩ := row_exists v hv
  have F := rowFacts v _ he
  exact ⟨r, hr, he, F.mask, F.tmask⟩

/-- the numeric meaning of the patterns: `2^(8n) − 1` and `2^(8n) − 2` -/
theorem be_allOnes (n : Nat) : be (allOnes n) = 256 ^ n - 1 := by
  have := be_replicate n
  unfold allOnes; omega

theorem be_allOnesMinusOne (n : Nat) (hn : 1 ≤ n) : be (allOnesMinusOne n) = 256 ^ n - 2 := by
  obtain ⟨k, rfl⟩ : ∃ k, n = k + 1 := ⟨n - 1, by omega⟩
  have := be_replicate k
  simp only [allOnesMinusOne, be_append_singleton, Nat.pow_succ]
  omega

/-- "For every declared memory value and every byte string of its length,
interpretation … returns either a value or one of the flags … and numbers,
scaled numbers, temperatures, versions, booleans and strings follow their
documented encodings": the model of `check_raw(raw) or raw_to_value(raw)`
equals the reference interpretation of the value's transcribed row, for every
raw string of the value's length. -/
theorem interpret_per_standard (v : MemValue) (hv : v ∈ Gen.memValues) :
    ∃ r ∈ Spec.Mem.memoryLayout, r.bank = v.bank ∧ r.name = v.name ∧ r.width = v.locs.length ∧
      ∀ raw : List Nat, raw.length = r.width →
        Mem.interpret v raw = some (.ok (Spec.Mem.interpret (unpin r) raw)) := by
  obtain ⟨r, hr, he⟩ := row_exists v hv
  have F := rowFacts v _ he
  exact ⟨r, hr, (rowOf_bank_name he).1, (rowOf_bank_name he).2, F.width,
    fun raw hlen => interpret_eq_spec v _ he raw hlen⟩

/-- "interpretation never raises": a value or a flag for every raw string -/
theorem interpret_total (v : MemValue) (hv : v ∈ Gen.memValues) (raw : List Nat)
    (hlen : raw.length = v.locs.length) : ∃ m, Mem.interpret v raw = some (.ok m) := by
  obtain ⟨r, -, -, -, hw, h⟩ := interpret_per_standard v hv
  exact ⟨_, h raw (by rw [hw, hlen])⟩

/-- the generic step behind the two theorems above, for *any* value record
(not only the ones declared today): if its row can be read off, the model
agrees with the reference interpretation on every raw string of its length. -/
theorem interpret_generic (v : MemValue) (r : Row) (h : rowOf v = some r) (raw : List Nat)
    (hlen : raw.length = r.width) :
    Mem.interpret v raw = some (.ok (Spec.Mem.interpret r raw)) :=
  interpret_eq_spec v r h raw hlen

/-- "MASK … recognised exactly at the all-ones pattern (sign- and scale-byte
aware) when the value supports it": MASK iff supported, the scale byte (if
any) is a legal power of ten, and the payload is all ones. -/
theorem mask_exact (r : Row) (raw : List Nat) :
    Spec.Mem.interpret r raw = .flag .MASK ↔
      scaleOK r raw = true ∧ r.mask = true ∧ payload r raw = allOnes (payload r raw).length := by
  have hd := (decode_not_mask r raw).1
  rw [Spec.Mem.interpret, ← beq_iff_eq (a := payload r raw), ← Bool.and_eq_true]
  cases scaleOK r raw
  · simp
  · cases r.mask && payload r raw == allOnes (payload r raw).length
    · simp only [Bool.not_true, Bool.false_eq_true, if_false]
      split <;> simp [hd]
    · simp

/-- TMASK iff supported, not MASK, legal scale byte, payload all-ones minus one -/
theorem tmask_exact (r : Row) (raw : List Nat) :
    Spec.Mem.interpret r raw = .flag .TMASK ↔
      scaleOK r raw = true ∧
      ¬ (r.mask = true ∧ payload r raw = allOnes (payload r raw).length) ∧
      r.tmask = true ∧ payload r raw = allOnesMinusOne (payload r raw).length := by
  have hd := (decode_not_mask r raw).2
  rw [Spec.Mem.interpret, ← beq_iff_eq (a := payload r raw), ← beq_iff_eq (a := payload r raw),
    ← Bool.and_eq_true, ← Bool.and_eq_true]
  cases scaleOK r raw
  · simp
  · cases r.mask && payload r raw == allOnes (payload r raw).length
    · cases r.tmask && payload r raw == allOnesMinusOne (payload r raw).length <;> simp [hd]
    · simp

/-- "range limits produce Invalid" (plain numbers; the same test guards fixed
and unit scaled numbers, temperatures, versions and CCT in `decode`) -/
theorem range_invalid (r : Row) (raw : List Nat) (hk : r.kind = .number)
    (hm : ¬ (r.mask = true ∧ raw = allOnes raw.length))
    (ht : ¬ (r.tmask = true ∧ raw = allOnesMinusOne raw.length)) :
    Spec.Mem.interpret r raw =
      if inRange r (be raw) then .int (be raw) else .flag .Invalid := by
  have hm' : (r.mask && raw == allOnes raw.length) = false := by simpa using hm
  have ht' : (r.tmask && raw == allOnesMinusOne raw.length) = false := by simpa using ht
  simp only [Spec.Mem.interpret, scaleOK, payload, hk, hm', ht', decode, Bool.not_true,
    Bool.false_eq_true, if_false]

/-- an illegal scale byte (7..249, i.e. outside −6..6) makes a scaled value Invalid
whatever follows -/
theorem scale_byte_invalid (r : Row) (s : Nat) (rest : List Nat) (hk : r.kind = .unitScaled)
    (hs : 6 < s ∧ s < 250) : Spec.Mem.interpret r (s :: rest) = .flag .Invalid := by
  simp [Spec.Mem.interpret, scaleOK, hk, hs]

/-- big-endian: the first byte is the most significant -/
theorem be_cons (b : Nat) (rest : List Nat) : be (b :: rest) = b * 256 ^ rest.length + be rest := rfl

/-- a byte string of length `n` denotes a number below `256^n` -/
theorem be_bound (l : List Nat) (h : ∀ b ∈ l, b < 256) : be l < 256 ^ l.length := be_lt l h

/-- two's complement of the scale byte -/
theorem signedByte_spec (b : Nat) (hb : b < 256) :
    -128 ≤ signedByte b ∧ signedByte b < 128 ∧ (signedByte b - (b : Int)) % 256 = 0 := by
  unfold signedByte
  by_cases h : 128 ≤ b <;> simp only [h, if_true, if_false] <;> omega

/-- scaled energy / power values: payload × 10^(signed scale byte) -/
theorem unit_scaled_value (r : Row) (s : Nat) (rest : List Nat) (hk : r.kind = .unitScaled) :
    decode r (s :: rest) =
      if inRange r (be rest) then .dec (be rest) (signedByte s) else .flag .Invalid := by
  simp [decode, hk]

/-- temperatures are stored with an offset (60 °C in parts 253) -/
theorem temperature_value (r : Row) (raw : List Nat) (off : Int) (hk : r.kind = .temperature off) :
    decode r raw = if inRange r (be raw) then .int ((be raw : Int) - off) else .flag .Invalid := by
  simp [decode, hk]

/-- fixed decimal scaling -/
theorem decimal_value (r : Row) (raw : List Nat) (m e : Int) (hk : r.kind = .decimal m e) :
    decode r raw = if inRange r (be raw) then .dec (m * be raw) e else .flag .Invalid := by
  simp [decode, hk]

/-- single-byte versions: major in bits 7..2, minor in bits 1..0, 0xFF = not implemented -/
theorem version_byte (r : Row) (n : Nat) (hk : r.kind = .version) (hmin : r.min = none)
    (hmax : r.max = none) :
    decode r [n] = if n = 255 then .text "not implemented"
      else .text (toString ((n : Int) / 4) ++ "." ++ toString ((n : Int) % 4)) := by
  have : ((n : Int) = 255) ↔ n = 255 := by omega
  simp [decode, hk, inRange, hmin, hmax, be, this]

/-- flags are 0 / 1, anything else is Invalid -/
theorem flag_bit (r : Row) (b : Nat) (rest : List Nat) (hk : r.kind = .flagBit) :
    decode r (b :: rest) =
      if b = 0 then .bool false else if b = 1 then .bool true else .flag .Invalid := by
  simp [decode, hk]

/-- strings: the bytes before the first NUL, all ASCII, else Invalid -/
theorem text_value (r : Row) (raw : List Nat) (hk : r.kind = .text) :
    decode r raw = if (cString raw).all (· < 128) then .ascii (cString raw) else .flag .Invalid := by
  simp [decode, hk]

/-- "converting a plain number … to raw bytes and back is the identity":
for a value whose `value_to_raw` / `raw_to_value` are `NumericValue`'s, every
`x` that fits the width is written as `width` big-endian bytes that read back
as `x`. -/
theorem roundtrip_number (v : MemValue) (hw : v.v2r = .numeric) (hr : v.r2v = .numeric)
    (hs : v.signed = false) (x : Nat) (hx : x < 256 ^ v.locs.length) :
    ∃ raw, valueToRaw v (.int x) = some (.ok raw) ∧ raw.length = v.locs.length ∧
      rawToValue v raw = some (.ok (.int x)) := by
  refine ⟨toBytes x v.locs.length, ?_, ?_, ?_⟩
  · have hx' : (x : Int) < (256 : Int) ^ v.locs.length := by
      have h := Int.ofNat_lt.mpr hx
      rwa [Int.natCast_pow] at h
    rw [valueToRaw_int v hw, hs, intToBytes, if_neg Bool.false_ne_true, if_pos ⟨Int.natCast_nonneg x, hx'⟩]
    rfl
  · exact toBytes_length _ _
  · simp only [rawToValue, hr, hs, fromBytes, Bool.false_and, Bool.false_eq_true, if_false, beNat_toBytes]
    rw [Nat.mod_eq_of_lt hx]

/-- the `signed = True` branch of `NumericValue` (no value of the current tree
sets it, but the class supports it and a vendor bank may): every integer
`-256^n/2 ≤ x < 256^n/2` is written as `n` two's-complement big-endian bytes
that read back as `x`, for every width `n ≥ 1`. -/
theorem roundtrip_signed (v : MemValue) (hw : v.v2r = .numeric) (hr : v.r2v = .numeric)
    (hs : v.signed = true) (hn : 1 ≤ v.locs.length) (x : Int)
    (hlo : -((256 : Int) ^ v.locs.length / 2) ≤ x) (hhi : x < (256 : Int) ^ v.locs.length / 2) :
    ∃ raw, valueToRaw v (.int x) = some (.ok raw) ∧ raw.length = v.locs.length ∧
      rawToValue v raw = some (.ok (.int x)) := by
  refine ⟨toBytes (x % (256 : Int) ^ v.locs.length).toNat v.locs.length, ?_, toBytes_length _ _, ?_⟩
  · rw [valueToRaw_int v hw, hs, intToBytes, if_pos rfl, if_neg (by omega), if_pos ⟨hlo, hhi⟩]
  · simp only [rawToValue, hr, hs]
    rw [fromBytes_signed_toBytes _ hn x hlo hhi]

/-- … and an integer that does not fit the signed width is refused with
`OverflowError` (nothing is written). -/
theorem signed_overflow (v : MemValue) (hw : v.v2r = .numeric) (hs : v.signed = true)
    (hn : 1 ≤ v.locs.length) (x : Int)
    (hx : x < -((256 : Int) ^ v.locs.length / 2) ∨ (256 : Int) ^ v.locs.length / 2 ≤ x) :
    valueToRaw v (.int x) = some (.error .OverflowError) := by
  rw [valueToRaw_int v hw, hs, intToBytes, if_pos rfl, if_neg (by omega), if_neg (by omega)]

/-- "… or string": an ASCII string (characters 0x01..0x7F) that fits is
written NUL-terminated (when shorter than the field) and reads back unchanged. -/
theorem roundtrip_string (v : MemValue) (hw : v.v2r = .string) (hr : v.r2v = .string)
    (s : List Nat) (hs : ∀ c ∈ s, 1 ≤ c ∧ c < 128) (hl : s.length ≤ v.locs.length) :
    ∃ raw, valueToRaw v (.str s) = some (.ok raw) ∧ raw.length ≤ v.locs.length ∧
      rawToValue v raw = some (.ok (.ascii s)) := by
  have hall : s.all (· < 128) = true := by
    rw [List.all_eq_true]; intro c hc; simpa using (hs c hc).2
  have hnz : ∀ c ∈ s, c ≠ 0 := fun c hc => by have := (hs c hc).1; omega
  by_cases hlt : s.length < v.locs.length
  · refine ⟨s ++ [0], ?_, ?_, ?_⟩
    · have : ¬ s.length > v.locs.length := by omega
      simp [valueToRaw, hw, hall, this, hlt]
    · simp; omega
    · simp only [rawToValue, hr, untilNul_append_nul s [] hnz, hall, if_true]
  · refine ⟨s, ?_, hl, ?_⟩
    · have : ¬ s.length > v.locs.length := by omega
      simp [valueToRaw, hw, hall, this, hlt]
    · simp only [rawToValue, hr, untilNul_noNul s hnz, hall, if_true]

/-- every declared plain number round-trips -/
theorem roundtrip_declared_numbers (v : MemValue) (hv : v ∈ Gen.memValues)
    (hw : v.v2r = .numeric) (hr : v.r2v = .numeric) (x : Nat) (hx : x < 256 ^ v.locs.length) :
    ∃ raw, valueToRaw v (.int x) = some (.ok raw) ∧ raw.length = v.locs.length ∧
      rawToValue v raw = some (.ok (.int x)) := by
  obtain ⟨r, -, he⟩ := row_exists v hv
  exact roundtrip_number v hw hr (rowFacts v _ he).signed x hx

/-! ## non-vacuity -/

example : Gen.memValues ≠ [] := by decide +kernel
example : ∃ v ∈ Gen.memValues, v.r2v = .scaled ∧ v.tmaskSupported = true := by decide +kernel
example : ∃ v ∈ Gen.memValues, v.r2v = .string ∧ v.locs.length = 60 := by decide +kernel
example : ∃ v ∈ Gen.memValues, v.maskSupported = true ∧ v.minValue ≠ none := by decide +kernel
example : ∃ r ∈ Spec.Mem.memoryLayout, r.kind = .unitScaled ∧ r.width = 7 := by decide +kernel
example : Spec.Mem.interpret
    { bank := "", name := "", first := 4, width := 3, access := [], kind := .unitScaled, mask := false,
      tmask := true, min := none, max := some 0xfffd, pinned := false } [0xfd, 0x01, 0x02] =
    .dec 258 (-3) := by decide +kernel
example : Spec.Mem.interpret
    { bank := "", name := "", first := 4, width := 3, access := [], kind := .unitScaled, mask := false,
      tmask := true, min := none, max := some 0xfffd, pinned := false } [0x00, 0xff, 0xfe] =
    .flag .TMASK := by decide +kernel

end DaliVerif.Props.C11
