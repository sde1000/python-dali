import DaliVerif.Proofs.DevSeq
import DaliVerif.Proofs.DevSeqBacked
/-!
# C13 — control-device sequences move multi-byte settings and scan results intact

The sequences of `dali/device/sequences.py` and the discovery scan of `dali/device/helpers.py`
(models in `Model/DevSeq.lean`) run against the specification bus of IEC 62386-103 control
devices (`Spec/DeviceUnit.lean`), and — for the fault clauses — against *any* responder
(`Prog.Out`).  For every bus, device/instance position, stale DTR content, resolution ≥ 1,
value, population and address list; nothing is bounded.
-/
namespace DaliVerif.Props.C13
open DaliVerif DaliVerif.DevMem DaliVerif.DevMem.Prog

/-- **Input value, resolution supplied.**  For every resolution `N ≥ 1` and every
measured value `v < 2^N` the byte-wise read reassembles exactly `v` (the value
the unit latched when QUERY INPUT VALUE arrived). -/
theorem inputValue_spec (b : Bus) (a i : Nat) (d : Device) (x : Instance)
    (hb : b.Has a i d x) (ha : addrOK a i = true) (N : Nat) (hN : 1 ≤ N)
    (hres : x.resolution = N) (hlt : x.value b.clock < 2 ^ N) :
    ((queryInputValue a i (some N)).run Bus.step b).1 = .ok (x.value b.clock) := by
  obtain ⟨c, t, hct⟩ : ∃ c t, inputBytes N (x.value b.clock) = c :: t := by
    rw [inputBytes, show (N + 7) / 8 = (N + 7) / 8 - 1 + 1 by omega, bytesBE]
    exact ⟨_, _, rfl⟩
  have hlen : t.length + 1 = (N + 7) / 8 := by
    have := congrArg List.length hct
    rwa [inputBytes, bytesBE_length, eq_comm] at this
  obtain ⟨hr, d', hb'⟩ := hb.step_queryInputValue (hres ▸ hct)
  rw [queryInputValue, ha, Bool.not_true, if_neg Bool.false_ne_true]
  simp only [run_send, hr]
  rw [qivLoop_run t _ d' _ N c hb' rfl (by omega) (by omega), ← inputBytes_value N _ hN hlt, hct,
    List.foldl_cons, Nat.zero_mul, Nat.zero_add, show 8 * t.length + 8 - N = 8 * ((N + 7) / 8) - N by omega]

/-- **Input value, resolution queried first** (`resolution=None`). -/
theorem inputValue_spec_queried (b : Bus) (a i : Nat) (d : Device) (x : Instance)
    (hb : b.Has a i d x) (ha : addrOK a i = true) (hN : 1 ≤ x.resolution)
    (hlt : x.value (b.clock + 1) < 2 ^ x.resolution) :
    ((queryInputValue a i none).run Bus.step b).1 = .ok (x.value (b.clock + 1)) := by
  rw [← inputValue_spec { b with clock := b.clock + 1 } a i d x hb ha x.resolution hN rfl hlt]
  simp only [queryInputValue, ha, Bool.not_true, Bool.false_eq_true, if_false, run_send,
    hb.step_query .resolution]

/-- the arithmetic core: `((v <<< pad) ||| fill) >>> pad = v` for the
repeated-MSB fill of IEC 62386-103 §9.7.2 -/
theorem inputValue_core (n v p : Nat) (hn : 0 < n) (hv : v < 2 ^ n) :
    repBits n v (n + p) >>> p = v := repBits_split n v p hn hv

/-- **Set event filter** for an 8-, 16- or 24-bit filter enum used with an
instance of that filter width, any value `< 2^width`, *any stale DTR0/1/2
contents* (they are fields of `d`): the instance ends with exactly that filter
(everything else of the instance untouched) and the sequence returns it.
True of the code after the F5 repair. -/
theorem setFilter_spec (b : Bus) (a i : Nat) (d : Device) (x : Instance)
    (hb : b.Has a i d x) (ha : addrOK a i = true) (w : Nat) (hw : w = 8 ∨ w = 16 ∨ w = 24)
    (hfw : x.filterWidth = w) (value : Nat) (hv : value < 2 ^ w) :
    ((setEventFilters a i (some w) value).run Bus.step b).1 = .ok (some value) ∧
    ((setEventFilters a i (some w) value).run Bus.step b).2.inst? a i =
      some { x with filter := value } := by
  subst hfw
  have hv24 : value < 16777216 :=
    Nat.lt_of_lt_of_le hv (Nat.pow_le_pow_right (by decide) (by omega : x.filterWidth ≤ 24))
  obtain ⟨b', d', hb', hrun⟩ := setEventFiltersG_run hb ha true x.filterWidth value hv24
  rw [Bool.and_true, filter_of_bytes _ value _ _ hw hv] at hb'
  obtain ⟨n, hread⟩ := readFilter_run hb' (decide (x.filterWidth > 8)) (decide (x.filterWidth > 16))
    (value / 256 % 256) (value / 65536 % 256)
  rw [setEventFilters, hrun, hread]
  refine ⟨?_, Bus.inst?_of_has hb'⟩
  simp only [ite_self]
  congr 2
  omega

/-- **Query event filter** returns exactly the unit's filter and changes no device. -/
theorem queryFilter_spec (b : Bus) (a i : Nat) (d : Device) (x : Instance)
    (hb : b.Has a i d x) (ha : addrOK a i = true) (w : Nat) (hw : w = 8 ∨ w = 16 ∨ w = 24)
    (hv : x.filter < 2 ^ w) :
    ((queryEventFilters a i w).run Bus.step b).1 = .ok (some x.filter) ∧
    ((queryEventFilters a i w).run Bus.step b).2.devs = b.devs := by
  obtain ⟨n, h⟩ := readFilter_run hb (decide (w > 8)) (decide (w > 16)) 0 0
  rw [queryEventFilters, ha, Bool.not_true, if_neg Bool.false_ne_true, h]
  refine ⟨?_, rfl⟩
  rcases hw with rfl | rfl | rfl <;> simp at hv ⊢ <;> omega

/-- **Set event scheme** for the five schemes: the instance ends with that
scheme and the unit's read-back is returned. -/
theorem setScheme_spec (b : Bus) (a i : Nat) (d : Device) (x : Instance)
    (hb : b.Has a i d x) (ha : addrOK a i = true) (s : Nat) (hs : s ≤ 4) :
    ((setEventSchemes a i s).run Bus.step b).1 = .ok (.byte s) ∧
    ((setEventSchemes a i s).run Bus.step b).2.inst? a i = some { x with scheme := s } := by
  have hc : ¬ ((s : Int) < 0 ∨ (s : Int) > 4) := by omega
  obtain ⟨d', h1⟩ := (hb.step_dtr0 s).step_setEventScheme hs
  rw [setEventSchemes, ha, Bool.not_true, if_neg Bool.false_ne_true, if_neg hc]
  simp only [Int.toNat_natCast, run_send, h1.step_query .scheme,
    run_done, true_and]
  exact Bus.inst?_of_has h1

/-- any other scheme: `ValueError` before any command is sent (empty trace,
bus untouched) -/
theorem setScheme_invalid (b : Bus) (a i : Nat) (s : Int) (hs : s < 0 ∨ s > 4) :
    (setEventSchemes a i s).run (traced Bus.step) (b, []) = (.error .ValueError, (b, [])) := by
  unfold setEventSchemes
  split <;> rfl

/-- **Discovery**, every population (any map short address → device, any status
bits, any instance lists up to 32, any enabled flags and types) and any list
of addresses ≤ 63: the scan returns normally, the `add_type` calls it made are
exactly `expectedLog` (per scanned address, per enabled instance of a device
that answered and is neither unaddressed nor in reset state, in order), no
device changed, quiescent mode is off afterwards. -/
theorem autodiscover_spec (b : Bus) (hD : ∀ a d, b.devs a = some d → d.instances.length ≤ 32)
    (addrs : List Nat) (haddr : ∀ a ∈ addrs, a ≤ 63) :
    ∃ c', (autodiscover addrs).run Bus.step b = (.ok (expectedLog b.devs addrs), ⟨c', b.devs, false⟩) :=
  scanDevices_run b.devs hD true addrs [] (b.clock + 1) haddr

/-- the mapping afterwards: overridden at exactly the keys `(a, i)` with `a`
scanned, device `a` present and healthy, `i` one of its instances and enabled —
with that instance's type — and equal to the old mapping everywhere else. -/
theorem autodiscover_mapping (D : Nat → Option Device) (addrs : List Nat)
    (init : Nat × Nat → Option Nat) (a i : Nat) :
    lookupLog (expectedLog D addrs) init (a, i) =
      match expectedType D addrs a i with
      | some t => some t
      | none => init (a, i) :=
  lookupLog_of_mem_iff _ init (a, i) _ (mem_expectedLog D addrs a i)

/-- **Faults, discovery** — against *any* responder (silence, framing errors,
wrong or inconsistent answers at any step): the first command is START
QUIESCENT MODE; the scan either returns normally with STOP QUIESCENT MODE as
its last command and every recorded type backed by a clean answer to QUERY
INSTANCE TYPE for that very (address, instance), or raises `ValueError` (only
possible when a unit claims more than 32 instances or an address > 63 is
given).  No other exception class, no invented value. -/
theorem faults_benign_autodiscover (addrs : List Nat) (tr : List (Cmd × Resp)) (out : PyRes TypeLog)
    (h : Out (autodiscover addrs) tr out) :
    (∃ r tr', tr = (.startQuiescentMode, r) :: tr') ∧
    ((out = .error .ValueError) ∨
      (∃ log tr0 r, out = .ok log ∧ tr = tr0 ++ [(.stopQuiescentMode, r)] ∧ ∀ e ∈ log, Backed tr e)) := by
  obtain ⟨hstart, hv | ⟨log, tr0, r, hout, htr, hlog⟩⟩ := autodiscover_faults addrs tr out h
  · exact ⟨hstart, .inl hv⟩
  · exact ⟨hstart, .inr ⟨log, tr0, r, hout, htr, fun e he => (hlog e he).backed⟩⟩

/-- **Faults, discovery: a missing or garbled answer is a skip** — against *any*
responder, every entry `((a, i), t)` the scan records is backed, in this very
exchange, by a clean byte answer to each of the four queries it depends on:
QUERY DEVICE STATUS `a` (showing neither "short address is MASK" nor "reset
state"), QUERY NUMBER OF INSTANCES `a`, QUERY INSTANCE ENABLED `(a, i)` and
QUERY INSTANCE TYPE `(a, i)` (= `t`).  So silence or a framing error on the
answer to QUERY INSTANCE ENABLED (or to any of the others) can only lead to
that instance / device being skipped, never to an entry. -/
theorem faults_skip_autodiscover (addrs : List Nat) (tr : List (Cmd × Resp)) (out : PyRes TypeLog)
    (h : Out (autodiscover addrs) tr out) :
    (out = .error .ValueError) ∨
    (∃ log, out = .ok log ∧ ∀ e ∈ log,
      ((∃ en, (Cmd.queryInstanceEnabled e.1.1 e.1.2, Resp.byte en) ∈ tr) ∧
        (Cmd.queryInstanceType e.1.1 e.1.2, Resp.byte e.2) ∈ tr) ∧
      (∃ st, (Cmd.queryDeviceStatus e.1.1, Resp.byte st) ∈ tr ∧ ¬ (st / 4 % 2 = 1 ∨ st / 64 % 2 = 1)) ∧
      (∃ n, (Cmd.queryNumberOfInstances e.1.1, Resp.byte n) ∈ tr)) := by
  obtain ⟨-, hv | ⟨log, -, -, hout, -, hlog⟩⟩ := autodiscover_faults addrs tr out h
  · exact .inl hv
  · exact .inr ⟨log, hout, hlog⟩

/-- **Faults, input value** — against any responder: a value is returned only
if *every* answer was a clean backward frame; any silence or framing error at
any step gives `DALISequenceError`; `ValueError` only for an address out of
range, before anything is sent. -/
theorem faults_benign_inputValue (a i : Nat) (r? : Option Nat) (tr : List (Cmd × Resp))
    (out : PyRes Nat) (h : Out (queryInputValue a i r?) tr out) :
    (out = .error .ValueError ∧ tr = []) ∨ (out = .error .DALISequenceError ∧ ¬ AllBytes tr) ∨
      (∃ v, out = .ok v ∧ AllBytes tr) := by
  unfold queryInputValue at h
  split at h
  · exact .inl ((out_fail _ _ _).mp h).symm
  · have rest (res : Nat) (tr' : List (Cmd × Resp)) (hc : CleanTo tr tr')
        (h' : Out (onByte (.queryInputValue a i) (.fail .DALISequenceError) (qivLoop a i res)) tr' out) :=
      onByte_fail_faults h' hc (qivLoop_faults a i res)
    cases r? with
    | some res => exact .inr (rest res tr (cleanTo_self tr) h)
    | none => exact .inr (onByte_fail_faults h (cleanTo_self tr) rest)

/-- **Faults, filter read-back** (the tail of `SetEventFilters` and all of
`QueryEventFilters`) — against any responder: the result is `None` as soon as
one part is not answered cleanly, otherwise the value is assembled from exactly
the bytes the unit sent for the parts that are read. -/
theorem faults_benign_filter (a i : Nat) (m h : Bool) (md0 hi0 : Nat) (tr : List (Cmd × Resp))
    (out : PyRes (Option Nat)) (ho : Out (readFilter a i m h md0 hi0) tr out) :
    (out = .ok none ∧ ¬ AllBytes tr) ∨
    (∃ lo md hi, out = .ok (some (lo + 256 * md + 65536 * hi)) ∧ AllBytes tr ∧
      (.queryEventFilterL a i, .byte lo) ∈ tr ∧
      (if m then (.queryEventFilterM a i, .byte md) ∈ tr else md = md0) ∧
      (if h then (.queryEventFilterH a i, .byte hi) ∈ tr else hi = hi0)) := by
  rw [readFilter_eq] at ho
  rcases out_onByte ho (cleanTo_self tr) with ⟨lo, tr1, hlo, c1, h1⟩ | ⟨hb, _, hk⟩
  · rcases out_onByteIf h1 c1 with ⟨md, tr2, hmd, c2, h2⟩ | ⟨hb, _, hk⟩
    · rcases out_onByteIf h2 c2 with ⟨hi, tr3, hhi, c3, h3⟩ | ⟨hb, _, hk⟩
      · obtain ⟨rfl, rfl⟩ := (out_done _ _ _).mp h3
        exact .inr ⟨lo, md, hi, rfl, c3.allBytes, hlo, hmd, hhi⟩
      · exact .inl ⟨((out_done _ _ _).mp hk).2, hb⟩
    · exact .inl ⟨((out_done _ _ _).mp hk).2, hb⟩
  · exact .inl ⟨((out_done _ _ _).mp hk).2, hb⟩

/-! ## the defect repaired by the `fix:` commit (F5), and non-vacuity -/

def witnessInst : Instance :=
  { itype := 1, enabled := true, scheme := 0, filter := 0, filterWidth := 24,
    resolution := 10, value := fun _ => 0x2A5, latch := [] }

/-- a one-instance device with a 24-bit filter and stale DTR2 = 0x12 -/
def witnessDev : Device :=
  { status := 0, dtr0 := 0x77, dtr1 := 0x66, dtr2 := 0x12, instances := [witnessInst] }

def witnessBus : Bus :=
  { clock := 0, quiescent := false, devs := fun a => if a = 1 then some witnessDev else none }

theorem witness_has : witnessBus.Has 1 0 witnessDev witnessInst :=
  ⟨by simp [witnessBus], by simp [witnessDev]⟩

/-- F5 witness: the code *before* the repair leaves the stale DTR2 in the top
byte (0x12CDEF instead of 0xABCDEF) and reports that back. -/
theorem setFilter_old_code_wrong :
    ((setEventFiltersOld 1 0 (some 24) 0xABCDEF).run Bus.step witnessBus).1 = .ok (some 0x12CDEF) := by
  obtain ⟨b', d', hb', hrun⟩ := setEventFiltersG_run witness_has rfl false 24 0xABCDEF (by decide)
  obtain ⟨n, hread⟩ := readFilter_run hb' (decide (24 > 8)) (decide (24 > 16)) 0xCD 0xAB
  exact (congrArg Prod.fst (hrun.trans hread)).trans rfl

/-- the repaired code on the same input -/
example : ((setEventFilters 1 0 (some 24) 0xABCDEF).run Bus.step witnessBus).1 = .ok (some 0xABCDEF) :=
  (setFilter_spec witnessBus 1 0 _ _ witness_has rfl 24 (by simp) rfl 0xABCDEF (by decide)).1

/-- a 10-bit value comes back intact -/
example : ((queryInputValue 1 0 none).run Bus.step witnessBus).1 = .ok 0x2A5 :=
  inputValue_spec_queried witnessBus 1 0 _ _ witness_has rfl (by simp [witnessInst])
    (by simp [witnessInst])

/-- discovery on the witness bus records instance (1, 0) with type 1 -/
example : lookupLog (expectedLog witnessBus.devs [0, 1, 2]) (fun _ => none) (1, 0) = some 1 := by
  rw [autodiscover_mapping]
  simp [expectedType, witnessBus, witnessDev, witnessInst, unhealthy]

end DaliVerif.Props.C13
