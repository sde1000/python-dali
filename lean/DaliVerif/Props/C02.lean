import DaliVerif.Proofs.ConstructLegal
import DaliVerif.Proofs.EventLegal
import DaliVerif.Model.Construct
import DaliVerif.Gen.Commands
/-!
# C02 — every constructible command or event decodes back to itself
-/
set_option linter.unusedSimpArgs false
namespace DaliVerif.Props.C02
open DaliVerif Cmd Spec

/-- the tie to the current tree, checked by the kernel against the tables regenerated on that run -/
theorem tables_ok2 : TableOK2 Gen.tables := by
  -- the largest registry (one key per opcode of every parameter command) is checked for repeated keys in one pass
  have hstd : keysUnique Gen.tables.stdOpcodes = true :=
    keysUnique_of_distinct (fun k => k.1 * 256 + k.2) _ (by decide +kernel)
  refine ⟨?_, ?_, ?_, ?_, ?_, ?_, ?_, ?_, hstd, ?_⟩ <;> decide +kernel

/-- C02: decode ∘ construct = id — for every registry satisfying `TableOK2` and every legal object (`WF`), the
constructor's frame assembly succeeds, and decoding that frame under the object's own device type (and, for
device/instance-scheme events, a map naming its instance type) yields the same object: same class,
destination, parameters, instance, addressing fields and event data. -/
theorem decode_construct (T : Tables) (hT : TableOK2 T) (c : Cmd) (h : WF T c) :
    ∃ bits d, encode c = .ok ⟨bits, d⟩ ∧ decode T bits d (dtOf c) (mapFor c) = c :=
  decode_encode T hT c h

theorem decode_construct_gen (c : Cmd) (h : WF Gen.tables c) :
    ∃ bits d, encode c = .ok ⟨bits, d⟩ ∧ decode Gen.tables bits d (dtOf c) (mapFor c) = c :=
  decode_encode Gen.tables tables_ok2 c h

/-- the textual form is a function of the object, so it is preserved as well -/
theorem render_preserved (T : Tables) (hT : TableOK2 T) (c : Cmd) (h : WF T c) :
    ∃ bits d, encode c = .ok ⟨bits, d⟩ ∧ render (decode T bits d (dtOf c) (mapFor c)) = render c := by
  obtain ⟨b, d, h1, h2⟩ := decode_encode T hT c h
  exact ⟨b, d, h1, by rw [h2]⟩

/-- two different legal objects that are decoded in the same context (device type, map) never share a frame -/
theorem no_shared_frame (T : Tables) (hT : TableOK2 T) (c₁ c₂ : Cmd) (h₁ : WF T c₁) (h₂ : WF T c₂)
    (hdt : dtOf c₁ = dtOf c₂) (hm : mapFor c₁ = mapFor c₂) (he : encode c₁ = encode c₂) : c₁ = c₂ := by
  obtain ⟨b1, d1, e1, r1⟩ := decode_encode T hT c₁ h₁
  obtain ⟨b2, d2, e2, r2⟩ := decode_encode T hT c₂ h₂
  rw [he, e2] at e1
  injection e1 with e1
  injection e1 with hb hd
  subst hb; subst hd
  rw [← r1, ← r2, hdt, hm]

theorem std_param_rejected (c : StdClass) (hp : c.hasparam = true) (dest : Arg) (v : PyVal)
    (hbad : match v.asInt? with | some i => i < 0 ∨ i > 15 | none => True) :
    constructStd c [dest, .val v] = .error .ValueError := by
  simp only [constructStd, hp, if_true, bind, Except.bind, intParam_rejected v 15 hbad]

theorem std_arity_rejected (c : StdClass) (dest a b : Arg) :
    (c.hasparam = true → constructStd c [dest] = .error .TypeError ∧
      constructStd c [dest, a, b] = .error .TypeError) ∧
    (c.hasparam = false → constructStd c [dest, a] = .error .TypeError) := by
  constructor
  · intro h; simp [constructStd, h, bind, Except.bind]
  · intro h; simp [constructStd, h, bind, Except.bind]

theorem destination_rejected (v : PyVal)
    (hbad : match v.asInt? with | some i => i < 0 ∨ i > 63 | none => True) :
    checkDestination (.val v) = .error .ValueError := by
  unfold checkDestination
  cases hv : v.asInt? with
  | none => simp only [hv]
  | some i =>
    simp only [hv] at hbad ⊢
    simp only [Addr.mkGearShort, Addr.mkNumbered, hv]
    have : (i < 0 || i > (63 : Nat)) = true := by simp; omega
    rw [if_pos this]; rfl

/-- an address of the wrong kind is refused, not truncated: a device address on a gear command and a gear
address on a device command make the frame assembly raise `IncompatibleFrame` -/
theorem wrong_kind_rejected (a : Addr) :
    (a.isGear = false → ∀ (c : StdClass) (p : Nat), p ≤ 15 → c.cmdval < 256 →
        encode (.standard c a p) = .error .IncompatibleFrame ∧
        ∀ pw, pw ≤ 255 → encode (.dapc a pw) = .error .IncompatibleFrame) ∧
    (a.isGear = true → ∀ (c : DevClass), c.opcode < 256 →
        encode (.devStd c a) = .error .IncompatibleFrame ∧
        ∀ i, encode (.devInst c a i) = .error .IncompatibleFrame) := by
  -- a fresh frame of the other width refuses the address
  have key : ∀ n x, 1 ≤ n → x < 2 ^ n → n ≠ a.frameSize →
      ∃ f, newFrame n x = .ok f ∧ a.addToFrame f = .error .IncompatibleFrame :=
    fun n x hn hx hne => ⟨_, newFrame_ok n x hn hx, by simp [Addr.addToFrame, hne]⟩
  constructor
  · intro hg c p hp hc
    have hfs : 16 ≠ a.frameSize := by simp [Addr.frameSize, hg]
    constructor
    · obtain ⟨f, h1, h2⟩ := key 16 (0x100 ||| c.cmdval ||| if c.hasparam then p else 0) (by omega)
        (Nat.or_lt_two_pow (Nat.or_lt_two_pow (by decide) (by omega)) (by split <;> omega)) hfs
      cases hh : c.hasparam <;> simp only [hh, Bool.false_eq_true, if_false, if_true] at h1 <;>
        simp only [encode, hh, Bool.false_eq_true, if_false, if_true, bind, Except.bind, pure, Except.pure,
          rangeCheck_ok p 15 hp, h1, h2]
    · intro pw hpw
      obtain ⟨f, h1, h2⟩ := key 16 pw (by omega) (by omega) hfs
      simp only [encode, bind, Except.bind, rangeCheck_ok pw 255 hpw, h1, h2]
  · intro hg c hc
    have hfs : 24 ≠ a.frameSize := by simp [Addr.frameSize, hg]
    constructor
    · obtain ⟨f, h1, h2⟩ := key 24 (0x1FE00 ||| c.opcode) (by omega) (by rw [or_eq_add 8 0x1FE00 (by decide) hc]; omega) hfs
      simp only [encode, bind, Except.bind, h1, h2]
    · intro i
      obtain ⟨f, h1, h2⟩ := key 24 (0x10000 ||| c.opcode) (by omega) (by rw [or_eq_add 8 0x10000 (by decide) hc]; omega) hfs
      simp only [encode, bind, Except.bind, h1, h2]

/-- `intParam … 255` is the parameter check of the special commands and of DAPC -/
theorem byte_param_rejected (v : PyVal)
    (hbad : match v.asInt? with | some i => i < 0 ∨ i > 255 | none => True) :
    intParam (.val v) 255 = .error .ValueError :=
  intParam_rejected v 255 hbad

/-- a slice write never truncates: this is what refuses an illuminance beyond ten bits and an event scheme field
beyond five -/
theorem slice_write_rejects (f : Frame) (hi lo : Nat) (v : Int) (hlo : lo ≤ hi) (hhi : hi < f.bits)
    (hbad : v < 0 ∨ (2 ^ (hi + 1 - lo) : Int) ≤ v) :
    setSlice f hi lo v = .error .ValueError := by
  rw [setSlice_eq f hi lo v hlo hhi, if_neg (by omega)]

/-! ### non-vacuity: legal objects exist -/
example : ∃ c a, WF Gen.tables (.standard c a 7) ∧ c.name = "gear.general.GoToScene" :=
  ⟨⟨"gear.general.GoToScene", 16, true, 0, true⟩, .gearGroup 3,
    ⟨by decide +kernel, by decide, by decide, by decide⟩, rfl⟩
example : WF Gen.tables (.ambiguous 63 31 1023) := ⟨by decide, by decide, by decide⟩
example : ∃ c, WF Gen.tables (.devSpecial c 0x12 0x34) :=
  ⟨⟨"device.general.DTR2DTR1", 201, 999, .two⟩, ⟨by decide +kernel, by decide⟩⟩

/-- C02, acceptance ⇒ legal: if the constructor returns and the frame assembly succeeds, the object is in `WF`, so
nothing outside the legal ranges is accepted or truncated into another command's frame.  One theorem per
constructor family; `hreg` says the class is registered (checked for the current tree by C03's
`rows_registered`). -/
theorem std_accepted_is_legal (T : Tables) (c : StdClass)
    (hreg : ∀ p, (if c.hasparam then p ≤ 15 else p = 0) → ((c.dt, c.cmdval + p), c) ∈ T.stdOpcodes)
    (args : List Arg) (hargs : ∀ a ∈ args, ArgOK a) (cmd : Cmd) (f : Frame)
    (h : constructStd c args = .ok cmd) (he : encode cmd = .ok f) : WF T cmd :=
  Cmd.std_accepted_is_legal T c hreg args hargs cmd f h he

theorem dapc_accepted_is_legal (T : Tables) (args : List Arg) (hargs : ∀ a ∈ args, ArgOK a)
    (cmd : Cmd) (f : Frame) (h : constructDapc args = .ok cmd) (he : encode cmd = .ok f) : WF T cmd :=
  Cmd.dapc_accepted_is_legal T args hargs cmd f h he

theorem special_accepted_is_legal (T : Tables) (c : SpecialClass)
    (hreg : (c.cmdval, c) ∈ T.specialOpcodes) (hk : c.kind = .plain) (args : List Arg) (cmd : Cmd)
    (h : constructSpecial c args = .ok cmd) : WF T cmd :=
  Cmd.special_accepted_is_legal T c hreg hk args cmd h

theorem shortSpecial_accepted_is_legal (T : Tables) (c : SpecialClass)
    (hreg : (c.cmdval, c) ∈ T.specialOpcodes) (hk : c.kind = .shortAddr) (args : List Arg) (cmd : Cmd)
    (h : constructShortSpecial c args = .ok cmd) : WF T cmd :=
  Cmd.shortSpecial_accepted_is_legal T c hreg hk args cmd h

theorem initialise_accepted_is_legal (T : Tables) (c : SpecialClass)
    (hreg : (c.cmdval, c) ∈ T.specialOpcodes) (hk : c.kind = .initialise) (b a : PyVal) (cmd : Cmd)
    (h : constructInitialise c b a = .ok cmd) : WF T cmd :=
  Cmd.initialise_accepted_is_legal T c hreg hk b a cmd h

theorem devStd_accepted_is_legal (T : Tables) (c : DevClass) (hreg : (c.opcode, c) ∈ T.devOpcodes)
    (args : List Arg) (hargs : ∀ a ∈ args, ArgOK a) (cmd : Cmd) (f : Frame)
    (h : constructDevStd c args = .ok cmd) (he : encode cmd = .ok f) : WF T cmd :=
  Cmd.devStd_accepted_is_legal T c hreg args hargs cmd f h he

/-- instance commands: legal apart from the excluded instance byte 0xFE (`Device`)
and hand-made reserved bytes -/
theorem devInst_accepted_is_legal (T : Tables) (c : DevClass) (hreg : (c.opcode, c) ∈ T.instOpcodes)
    (dest : Arg) (i : Inst) (hd : ArgOK dest) (hi : i.Canonical) (hnd : i ≠ .device) (cmd : Cmd) (f : Frame)
    (h : constructDevInst c [dest, .inst i] = .ok cmd) (he : encode cmd = .ok f) : WF T cmd :=
  Cmd.devInst_accepted_is_legal T c hreg dest i hd hi hnd cmd f h he

theorem devSpecial_accepted_is_legal (T : Tables) (c : DevSpecialClass)
    (hreg : DevEntry.special c ∈ T.devCommands) (args : List Arg) (cmd : Cmd)
    (h : constructDevSpecial c args = .ok cmd) : WF T cmd :=
  Cmd.devSpecial_accepted_is_legal T c hreg args cmd h

/-- the keyword combinations `_Event.__init__` accepts are exactly the five addressing schemes of part 103
Table 3 -/
theorem event_keywords_spec (sa inum ig dg : Option Nat) (src : EventSrc) :
    constructEventSrc sa inum ig dg = .ok src ↔
      (∃ a, sa = some a ∧ inum = none ∧ ig = none ∧ dg = none ∧ src = .device a) ∨
      (∃ a n, sa = some a ∧ inum = some n ∧ ig = none ∧ dg = none ∧ src = .deviceInstance a n) ∨
      (∃ g, sa = none ∧ inum = none ∧ ig = none ∧ dg = some g ∧ src = .deviceGroup g) ∨
      (∃ g, sa = none ∧ inum = none ∧ ig = some g ∧ dg = none ∧ src = .instanceGroup g) ∨
      (∃ n, sa = none ∧ inum = some n ∧ ig = none ∧ dg = none ∧ src = .inst n) :=
  Cmd.constructEventSrc_spec sa inum ig dg src

theorem event_keywords_error (sa inum ig dg : Option Nat) (e : PyErr)
    (h : constructEventSrc sa inum ig dg = .error e) : e = .ValueError :=
  Cmd.constructEventSrc_error sa inum ig dg e h

/-- a frame assembly of an event object that succeeds had every field in range; nothing is truncated into
another event's frame -/
theorem event_accepted_fields (cls : String) (t : Nat) (src : EventSrc) (body : EventBody) (f : Frame)
    (h : encode (.event cls t src body) = .ok f) :
    SrcOK src ∧ (srcHasType src = true → t ≤ 31) ∧ BodyOK body :=
  Cmd.event_accepted_fields cls t src body f h

theorem unknownEvent_accepted_fields (t : Int) (src : EventSrc) (data : Nat) (f : Frame)
    (h : encode (.unknownEvent t src data) = .ok f) :
    SrcOK src ∧ (srcHasType src = true → 0 ≤ t ∧ t ≤ 31) ∧ data < 1024 :=
  Cmd.unknownEvent_accepted_fields t src data f h

theorem ambiguous_accepted_is_legal (T : Tables) (sa inum data : Nat) (f : Frame)
    (h : encode (.ambiguous sa inum data) = .ok f) : WF T (.ambiguous sa inum data) :=
  Cmd.ambiguous_accepted_is_legal T sa inum data f h

theorem event_accepted_is_legal (T : Tables) (cls : String) (t : Nat) (src : EventSrc) (body : EventBody)
    (f : Frame) (h : encode (.event cls t src body) = .ok f) (ht : t ≤ 31)
    (hcls : match body with
       | .pushbutton pc => cls = pc.name ∧ (pc.info, pc) ∈ T.pushEvents ∧
           ∃ et, (t, et) ∈ T.instanceTypes ∧ et.kind = .pushbutton
       | .occupancy .. => ∃ et, (t, et) ∈ T.instanceTypes ∧ et.kind = .occupancy ∧ et.name = cls
       | .light _ => ∃ et, (t, et) ∈ T.instanceTypes ∧ et.kind = .light ∧ et.name = cls
       | .unknown _ => False) :
    WF T (.event cls t src body) :=
  Cmd.event_accepted_is_legal T cls t src body f h ht hcls

/-- non-vacuity: an event constructor call that is accepted, and one refused -/
example : constructEventSrc (some 5) (some 3) none none = .ok (.deviceInstance 5 3) := rfl
example : constructEventSrc (some 5) none (some 1) none = .error .ValueError := rfl
example : (encode (.event "device.light.IlluminanceLevelReport" 4 (.inst 31) (.light 1023))).isOk = true := by
  decide +kernel
example : encode (.event "device.light.IlluminanceLevelReport" 4 (.inst 32) (.light 5)) = .error .ValueError := by
  decide +kernel

end DaliVerif.Props.C02
