import DaliVerif.Proofs.AnswerTable
import DaliVerif.Proofs.Routing
/-!
# C16 — what `send` returns, and to whom

Property theorems only.  The models are `Model/Answer.lean` (the status →
response code of the six drivers) and `Model/Routing.lean` (how a gateway
report reaches the waiting caller); `Spec/AnswerTable.lean` says what each
gateway's protocol reports for a bus outcome and what the property asks of
`send`'s result (`conforms`).

* The pure mappings — class of the response object, `None` exactly for
  a command that expects no answer, the status tables.
* Routing — a caller is only ever handed reports about its own command
  (Tridonic sequence numbers, across wrap-around; the ATX hat's lock), and never a
  report that was stored / queued before its own write (hasseb slot, LUBA / SCI queue).

One excluded point is stated as a witness next to the theorem it limits:
hasseb returns `None` for a query on an unknown status code.
-/
namespace DaliVerif.Props.C16
open DaliVerif DaliVerif.Answer DaliVerif.Routing DaliVerif.Spec.AnswerTable
open DaliVerif.Proofs

/-- The status and type codes the models compare with are the protocols' own. -/
theorem constants_are_protocol : protocolConstants.all (fun p => p.1 == p.2) = true := by decide

/-- **A response object is of the command's own class**, whatever the gateway
sent: all six drivers build it with `command.response(…)`. -/
theorem typed_by_command (c : CmdInfo) (cls : Nat) (o : Outcome) :
    (∀ msgs n, tridonicAnswer c msgs = .done (.ok (.resp cls o)) n → c.resp = some cls) ∧
    (∀ rep, hassebAnswer c rep = .ok (.resp cls o) → c.resp = some cls) ∧
    (∀ w, lubaAnswer c w = .ok (.resp cls o) → c.resp = some cls) ∧
    (∀ w, sciAnswer c w = .ok (.resp cls o) → c.resp = some cls) ∧
    (∀ v s r p, daliserverUnpack c v s r p = .ok (.resp cls o) → c.resp = some cls) ∧
    (∀ lines, atxAnswer c lines = .ok (.resp cls o) → c.resp = some cls) := by
  open AnswerTable in exact
  ⟨fun _ _ h => answerOf_resp (tridonic_answerOf h),
   fun _ h => (hasseb_answerOf h).elim answerOf_resp (fun h => nomatch h.1),
   fun _ h => answerOf_resp (luba_answerOf h), fun _ h => answerOf_resp (luba_answerOf h),
   fun _ _ _ _ h => answerOf_resp (daliserver_answerOf h), fun _ h => answerOf_resp (atx_answerOf h)⟩

/-- **`send` returns `None` exactly when the command expects no answer.**
hasseb: for the three status codes of the protocol (and always `None` for a
non-query). -/
theorem none_iff_no_answer_expected (c : CmdInfo) (a : Answer) :
    (∀ msgs n, tridonicAnswer c msgs = .done (.ok a) n → (a = .none ↔ c.resp = none)) ∧
    (∀ st b, hassebAnswer c (.rep st b) = .ok a → st = 1 ∨ st = 2 ∨ st = 3 →
      (a = .none ↔ c.resp = none)) ∧
    (c.resp = none → ∀ rep, hassebAnswer c rep = .ok .none) ∧
    (∀ w, lubaAnswer c w = .ok a → (a = .none ↔ c.resp = none)) ∧
    (∀ w, sciAnswer c w = .ok a → (a = .none ↔ c.resp = none)) ∧
    (∀ v s r p, daliserverUnpack c v s r p = .ok a → (a = .none ↔ c.resp = none)) ∧
    (∀ lines, atxAnswer c lines = .ok a → (a = .none ↔ c.resp = none)) := by
  open AnswerTable in exact
  ⟨fun _ _ h => answerOf_none_iff (tridonic_answerOf h),
   fun st b h hst => (hasseb_answerOf h).elim answerOf_none_iff
     (fun hu => by have := hu.2 st b rfl; omega),
   fun hc rep => by simp [hassebAnswer, hc],
   fun _ h => answerOf_none_iff (luba_answerOf h), fun _ h => answerOf_none_iff (luba_answerOf h),
   fun _ _ _ _ h => answerOf_none_iff (daliserver_answerOf h),
   fun _ h => answerOf_none_iff (atx_answerOf h)⟩

/-- excluded point (hasseb): an unknown status code returns `None` for a query -/
example : hassebAnswer ⟨some 7, false⟩ (.rep 4 0) = .ok .none := by decide

/-- ATX hat, non-query: a `J…` or `X…` line from the hat does not leak into the result -/
example : atxAnswer ⟨none, false⟩ [.j 0 (some 5)] = .ok .none ∧
    atxAnswer ⟨none, false⟩ [.x] = .ok .none := by decide

/-- **Tridonic status table**: for every command, frame width and bus outcome
the loop run on the protocol's reports returns normally, the result is the one
the property asks for, and every report has been consumed. -/
theorem tridonic_table (c : CmdInfo) (b24 : Bool) (bus : Bus)
    (hb : ∀ b, bus = .value b → b < 256) :
    ∃ a n, tridonicAnswer c (tridonicReports b24 c.twice bus) = .done (.ok a) n ∧
      conforms .tridonic c bus a = true ∧ n = (tridonicReports b24 c.twice bus).length :=
  ⟨_, _, AnswerTable.tridonic_run c b24 bus hb, AnswerTable.conforms_readAs _ c bus _ rfl, rfl⟩

/-- **hasseb status table** (a non-query gets `None`: `conforms` for `c.resp = none`). -/
theorem hasseb_table (c : CmdInfo) (bus : Bus) (junk : Nat)
    (hb : ∀ b, bus = .value b → b < 256) (hj : junk < 256) :
    ∃ a, hassebAnswer c (hassebReport bus junk) = .ok a ∧ conforms .hasseb c bus a = true :=
  ⟨_, AnswerTable.hasseb_run c bus junk hb hj, AnswerTable.conforms_readAs _ c bus _ rfl⟩

theorem daliserver_table (c : CmdInfo) (bus : Bus) (junk : Nat) :
    let (v, s, r, p) := daliserverReply bus junk
    ∃ a, daliserverUnpack c v s r p = .ok a ∧ conforms .daliserver c bus a = true :=
  ⟨_, AnswerTable.daliserver_run c bus junk, AnswerTable.conforms_readAs _ c bus _ rfl⟩

/-- **LUBA status table** (a garbled answer is only logged: the caller sees silence). -/
theorem luba_table (c : CmdInfo) (bus : Bus) (hb : ∀ b, bus = .value b → b < 256) :
    ∃ a, lubaAnswer c (serialWait bus) = .ok a ∧ conforms .luba c bus a = true :=
  ⟨_, AnswerTable.luba_run c bus hb, AnswerTable.conforms_readAs _ c bus _ rfl⟩

theorem sci_table (c : CmdInfo) (bus : Bus) (hb : ∀ b, bus = .value b → b < 256) :
    ∃ a, sciAnswer c (serialWait bus) = .ok a ∧ conforms .sci c bus a = true :=
  ⟨_, AnswerTable.luba_run c bus hb, AnswerTable.conforms_readAs _ c bus _ rfl⟩

theorem atx_table (c : CmdInfo) (bus : Bus) (hb : ∀ b, bus = .value b → b < 256) :
    ∃ a, atxAnswer c (atxLines c.twice bus) = .ok a ∧ conforms .atx c bus a = true :=
  ⟨_, AnswerTable.atx_run c bus hb, AnswerTable.conforms_readAs _ c bus _ rfl⟩

/-- a report type the Tridonic loop does not react to -/
def Ignorable (t f3 : Nat) : Prop :=
  t ≠ 0x71 ∧ t ≠ 0x72 ∧ t ≠ 0x73 ∧ t ≠ 0x76 ∧ ¬ (t = 0x77 ∧ f3 = 3)

/-- **The Tridonic loop ignores reports of unknown type**: inserting one
anywhere in the message list changes neither the answer nor whether the loop
is still waiting; it is counted as consumed iff the loop reaches it. -/
theorem tri_ignores_unknown (c : CmdInfo) (pre post : List TMsg) (t f0 f1 f2 f3 : Nat)
    (h : Ignorable t f3) :
    tridonicAnswer c (pre ++ .rep t f0 f1 f2 f3 :: post) =
      match tridonicAnswer c (pre ++ post) with
      | .blocked => .blocked
      | .done a k => .done a (if k ≤ pre.length then k else k + 1) := by
  unfold tridonicAnswer
  rw [AnswerTable.triLoop_insert c _ _ 0 pre post (AnswerTable.triStep_ignorable h · · f0 f1 f2)]
  cases triLoop c (if c.twice = true then 2 else 1) TResp.unset 0 (pre ++ post) <;>
    simp [AnswerTable.withInserted]

theorem seqAt_range (s0 k : Nat) (h1 : 1 ≤ s0) (h2 : s0 ≤ 255) :
    1 ≤ seqAt s0 k ∧ seqAt s0 k ≤ 255 := by
  rw [RoutingInv.seqAt_closed s0 k h1 h2]; omega

theorem seqAt_closed (s0 k : Nat) (h1 : 1 ≤ s0) (h2 : s0 ≤ 255) :
    seqAt s0 k = (s0 - 1 + k) % 255 + 1 := RoutingInv.seqAt_closed s0 k h1 h2

theorem seqAt_eq_iff (s0 i j : Nat) (h1 : 1 ≤ s0) (h2 : s0 ≤ 255) :
    seqAt s0 i = seqAt s0 j ↔ i % 255 = j % 255 := RoutingInv.seqAt_eq_iff s0 i j h1 h2

/-- the gateway's part of the contract: a report is about a command that has
been written, and it arrives before 255 further numbers have been drawn -/
def Timely (t : Tri) : TriEv → Prop
  | .deliver about _ => about ∈ t.written ∧ t.next ≤ about + 255
  | _ => True

/-- states of the Tridonic driver reachable with a timely gateway -/
inductive Reach (s0 : Nat) : Tri → Prop
  | init : Reach s0 (Tri.init s0)
  | step {t : Tri} {e : TriEv} : Reach s0 t → Timely t e → Reach s0 (t.step e).1

theorem triInv_of_reach {s0 : Nat} {t : Tri} (h1 : 1 ≤ s0) (h2 : s0 ≤ 255) (hr : Reach s0 t) :
    RoutingInv.TriInv s0 t := by
  induction hr with
  | init => exact RoutingInv.triInv_init s0
  | @step _ e _ ht ih =>
    cases e with
    | alloc => exact ih.alloc
    | deliver about m => exact ih.deliver h1 h2 m ht.1 ht.2
    | finish idx => exact ih.finish idx

/-- **No caller receives another caller's answer** (Tridonic): every message in
an outstanding command's list is about that very command, and two outstanding
commands never share a sequence number — also across wrap-around. -/
theorem routing_tridonic (s0 : Nat) (t : Tri) (h1 : 1 ≤ s0) (h2 : s0 ≤ 255) (hr : Reach s0 t) :
    (∀ e ∈ t.out, ∀ m ∈ e.msgs, m.about = e.idx) ∧
    (∀ e₁ ∈ t.out, ∀ e₂ ∈ t.out, e₁.seq = e₂.seq → e₁.idx = e₂.idx) :=
  RoutingInv.triInv_routing (triInv_of_reach h1 h2 hr)

inductive SReach : Slot → Prop
  | init : SReach Slot.init
  | step {s : Slot} (e : SlotEv) : SReach s → SReach (s.step e).1

theorem slotInv_of_reach {s : Slot} (hr : SReach s) : RoutingInv.SlotInv s := by
  induction hr with
  | init => exact RoutingInv.slotInv_init
  | step e _ ih => exact RoutingInv.slotInv_step ih e

/-- **hasseb**: the report a task reads was stored after that task's own write
(and `clear()`); a stale report left by an earlier command is never taken. -/
theorem routing_slot (s s' : Slot) (t t₁ τ : Nat) (r : HRep) (hr : SReach s)
    (h : s.step (.wake t) = (s', some (t₁, τ, r))) :
    t₁ = t ∧ ∃ w, s.holder = some (t, w) ∧ w < τ :=
  RoutingInv.slotInv_wake (slotInv_of_reach hr) h

/-- reachable states of the LUBA / SCI answer queue (repaired code) -/
inductive QReach : Que → Prop
  | init : QReach Que.init
  | step {q : Que} (e : QueEv) : QReach q → QReach (q.step e).1

theorem queInv_of_reach {q : Que} (hr : QReach q) : RoutingInv.QueInv q := by
  induction hr with
  | init => exact RoutingInv.queInv_init
  | step e _ ih => exact RoutingInv.queInv_step ih e

/-- **LUBA / SCI**: the byte a task takes from the answer queue was queued
after that task's own flush. -/
theorem routing_queue (q q' : Que) (t t₁ τ b : Nat) (hr : QReach q)
    (h : q.step (.take t) = (q', some (t₁, some (τ, b)))) :
    t₁ = t ∧ ∃ w, q.holder = some (t, w) ∧ w < τ :=
  RoutingInv.queInv_take (queInv_of_reach hr) h

/-- the code before the repair (discard only the head of the queue) violates it:
the task that flushed at time 2 is handed a byte queued at time 2, before its
flush — a stale answer -/
example :
    let q := [QueEv.rx 5, .rx 6, .flush 1].foldl (fun q e => (Que.stepWith false q e).1) Que.init
    ∃ w τ b, q.holder = some (1, w) ∧
      (Que.stepWith false q (.take 1)).2 = some (1, some (τ, b)) ∧ τ ≤ w :=
  ⟨2, 2, 6, by decide⟩

/-- the same history with the repaired flush: nothing stale to take -/
example :
    let q := [QueEv.rx 5, .rx 6, .flush 1].foldl (fun q e => (Que.step q e).1) Que.init
    (Que.step q (.take 1)).2 = none := by decide

/-- **LUBA / SCI, the other direction — the caller's own answer is not lost**:
once a task has flushed and written (nobody else holds the transaction lock),
whatever the receiver queues afterwards, in however many `data_received` calls
and before the task runs again, the task takes the FIRST byte queued after its
flush — the value the gateway reported for its command. -/
theorem routing_queue_complete (q : Que) (t b : Nat) (bs : List Nat) (hn : q.holder = none) :
    ∃ τ q', ((b :: bs).foldl (fun q x => (q.step (.rx x)).1) (q.step (.flush t)).1).step (.take t)
      = (q', some (t, some (τ, b))) ∧ q.clock < τ :=
  RoutingInv.que_complete q t b bs hn

/-- a flush placed AFTER the transmission has been confirmed (the answer may
already have been queued by then — confirmation and answer in one serial read)
throws the caller's own answer away: nothing left to take -/
example :
    let q := [QueEv.rx 0x84, .flush 1].foldl (fun q e => (Que.step q e).1) Que.init
    (Que.step q (.take 1)).2 = none ∧ (Que.step q (.giveUp 1)).2 = some (1, none) := by decide

/-- reachable states of the ATX hat's port: the exchange of one `send` is
bracketed by the lock (`Hat.step` = `Hat.stepWith true`) -/
inductive HReach : Hat → Prop
  | init : HReach Hat.init
  | step {h h' : Hat} {o : Option (Nat × Nat)} (e : HatEv) : HReach h → h.step e = some (h', o) → HReach h'

theorem hatInv_of_reach {h : Hat} (hr : HReach h) : RoutingInv.HatInv h := by
  induction hr with
  | init => exact RoutingInv.hatInv_init
  | step e _ hs ih => exact RoutingInv.hatInv_step ih e hs

/-- **ATX hat, several threads on one driver object**: every reply line a
thread reads answers a frame that this very thread transmitted — the lines
carry no identification, the lock held from the write until the reply has been
read is what pairs them. -/
theorem routing_hat (h h' : Hat) (t t₁ l : Nat) (hr : HReach h)
    (hs : h.step (.read t) = some (h', some (t₁, l))) : t₁ = t ∧ l = t :=
  RoutingInv.hatInv_read (hatInv_of_reach hr) hs

/-- … and whenever the lock is free no reply line is pending. -/
theorem hat_idle_clean (h : Hat) (hr : HReach h) (hn : h.holder = none) : h.lines = [] :=
  (hatInv_of_reach hr).lines_nil (.inl hn)

/-- a lock that brackets the write only (`stepWith false`): thread 2 transmits
while thread 1's reply is pending and reads thread 1's line -/
example :
    let run := fun (h : Option Hat) (e : HatEv) => h.bind (fun h => (Hat.stepWith false h e).map (·.1))
    let h := [HatEv.acquire 1, .write 1 1, .release 1, .acquire 2, .write 2 1].foldl run (some Hat.init)
    (h.bind (fun h => Hat.stepWith false h (.read 2))).map (·.2) = some (some (2, 1)) := by decide

/-- the same schedule is not a run of the code: thread 1 cannot leave the lock with its reply unread -/
example :
    (([HatEv.acquire 1, .write 1 1].foldl
        (fun (h : Option Hat) e => h.bind (fun h => (Hat.step h e).map (·.1))) (some Hat.init)).bind
      (fun h => Hat.step h (.release 1))) = none := by decide

/-! ### non-vacuity -/

example : tridonicAnswer ⟨some 7, false⟩ [.rep 0x73 0 0 0 0, .rep 0x72 0 0 0 0x84]
    = .done (.ok (.resp 7 (.value 0x84))) 2 := by decide
example : tridonicAnswer ⟨some 7, true⟩ [.rep 0x73 0 0 0 0, .rep 0x73 0 0 0 0, .rep 0x77 0 0 0 3]
    = .done (.ok (.resp 7 (.framing 255))) 3 := by decide
example : tridonicAnswer ⟨none, false⟩ [.rep 0x73 0 0 0 0, .rep 0x71 0 0 0 0] = .done (.ok .none) 2 := by
  decide
/-- a reachable Tridonic state with a delivered message, after a wrap of the sequence numbers -/
example : Reach 255 ((Tri.init 255).run [.alloc, .alloc, .deliver 1 (.rep 0x71 0 0 0 0)]) :=
  .step (.step (.step .init trivial) trivial) (by simp only [Timely]; decide)
example : ((Tri.init 255).run [.alloc, .alloc, .deliver 1 (.rep 0x71 0 0 0 0)]).out
    = [⟨255, 0, []⟩, ⟨1, 1, [⟨1, .rep 0x71 0 0 0 0⟩]⟩] := by decide
example : (([SlotEv.write 1, .report (.rep 2 9)].foldl (fun s e => (Slot.step s e).1) Slot.init).step
    (.wake 1)).2 = some (1, 2, .rep 2 9) := by decide
/-- a reachable hat state with a pending line, read by the thread that caused it -/
example : HReach ⟨[1], some 1, 1⟩ ∧ Hat.step ⟨[1], some 1, 1⟩ (.read 1) = some (⟨[], some 1, 0⟩, some (1, 1)) :=
  ⟨.step (.write 1 1) (.step (.acquire 1) .init rfl) rfl, rfl⟩

end DaliVerif.Props.C16
