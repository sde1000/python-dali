import DaliVerif.Proofs.GearSeqC07Search
/-!
# C07: one RANDOMISE round of `Commissioning` (the inner loop) on the specification bus

The *addressing view* `V` of a unit and what each commissioning command does to it; the answers of the bus to
VERIFY SHORT ADDRESS / QUERY CONTROL GEAR PRESENT in terms of views; the classes of commands the loop sends.
`inner_bus` is the one induction over the loop budget: everything a round guarantees (`Round`), for any invariant
`I` of the iteration; `Hold` (first round: the WITHDRAWN units hold exactly the addresses handed out) and `Prg`
(any round: an address logged sits in the unit found) are such invariants.
-/
namespace DaliVerif.GearSeq
set_option linter.unusedSimpArgs false


structure V where
  short : Option Nat
  init : InitState
  random : Nat
  draws : List Nat
  noStore : Bool
  noVerify : Bool
  deriving DecidableEq, Repr

def Gear.v (u : Gear) : V := ⟨u.short, u.init, u.random, u.draws, u.noStore, u.noVerify⟩
def view (b : Bus) : List V := b.map Gear.v

namespace V
def prog (m a : Nat) (v : V) : V :=
  if v.init ≠ .disabled ∧ v.random = m ∧ v.noStore = false then { v with short := some a } else v
def wd (m : Nat) (v : V) : V :=
  if v.init = .enabled ∧ v.random = m then { v with init := .withdrawn } else v
def rand (v : V) : V :=
  if v.init = .disabled then v else
  match v.draws with
  | [] => v
  | d :: ds => { v with random := d, draws := ds }
def term (v : V) : V := { v with init := .disabled }
def ini (a : Nat) (v : V) : V :=
  if a = 0 ∨ (a = 0xFF ∧ v.short = none) ∨ (a % 2 = 1 ∧ a < 128 ∧ v.short = some (a / 2))
  then { v with init := .enabled } else v
def unaddr (v : V) : V := { v with short := none }
end V

theorem view_exec (b : Bus) (c : Cmd) (f : V → V) (h : ∀ u ∈ b, (u.execSt c).v = f u.v) :
    view (Bus.exec b c).2 = (view b).map f := by
  simp only [view, Bus.exec_st, List.map_map]
  apply List.map_congr_left
  intro u hu
  exact h u hu

/-- commands that leave the addressing view of every unit alone -/
def IsQuiet : Cmd → Prop
  | .searchH _ | .searchM _ | .searchL _ | .compare | .verifyShort _ | .queryGearPresent _ | .dtr0 _ => True
  | _ => False

theorem v_quiet (u : Gear) (c : Cmd) (hc : IsQuiet c) : (u.execSt c).v = u.v := by
  cases c <;> (try exact hc.elim) <;>
    (simp only [Gear.execSt, Cmd.devicetype, if_true, Gear.step]; first | rfl | (split <;> rfl))

theorem v_prog (u : Gear) (m a : Nat) (h : u.init ≠ .disabled → u.search = m) :
    (u.execSt (.programShort a)).v = V.prog m a u.v := by
  simp only [Gear.execSt, Cmd.devicetype, if_true, Gear.step, V.prog, Gear.v]
  by_cases hd : u.init = .disabled
  · simp [hd, Gear.tick]
  · have := h hd
    subst this
    by_cases hc : u.random = u.search ∧ u.noStore = false
    · simp [hd, hc, Gear.tick]
    · have hc' : ¬ (u.init ≠ .disabled ∧ u.random = u.search ∧ u.noStore = false) := fun x => hc x.2
      simp only [hc', if_false]
      rfl

theorem v_wd (u : Gear) (m : Nat) (h : u.init ≠ .disabled → u.search = m) :
    (u.execSt .withdraw).v = V.wd m u.v := by
  simp only [Gear.execSt, Cmd.devicetype, if_true, Gear.step, V.wd, Gear.v]
  by_cases he : u.init = .enabled
  · have := h (by rw [he]; decide)
    subst this
    by_cases hc : u.random = u.search
    · simp [he, hc, Gear.tick]
    · simp [he, hc, Gear.tick]
  · simp [he, Gear.tick]

theorem v_rand (u : Gear) : (u.execSt .randomise).v = V.rand u.v := by
  simp only [Gear.execSt, Cmd.devicetype, if_true, Gear.step, V.rand, Gear.v]
  by_cases hd : u.init = .disabled
  · simp [hd, Gear.tick]
  · simp only [hd, if_false]
    cases hdr : u.draws <;> simp [Gear.tick, hdr]

theorem v_term (u : Gear) : (u.execSt .terminate).v = V.term u.v := rfl

theorem v_ini (u : Gear) (a : Nat) : (u.execSt (.initialise a)).v = V.ini a u.v := by
  simp only [Gear.execSt, Cmd.devicetype, if_true, Gear.step, V.ini, Gear.v]
  by_cases hc : a = 0 ∨ (a = 0xFF ∧ u.short = none) ∨ (a % 2 = 1 ∧ a < 128 ∧ u.short = some (a / 2))
  · simp only [hc, if_true]; rfl
  · simp only [hc, if_false]; rfl

theorem v_unaddr (u : Gear) :
    ((u.execSt (.dtr0 255)).execSt (.setShortAddress .broadcast)).v = V.unaddr u.v := by
  simp [Gear.execSt, Cmd.devicetype, Gear.step, Gear.addressed, Gear.tick, V.unaddr, Gear.v]


theorem foldl_execSt_inv (P : Gear → Prop) (C : Cmd → Prop) (hP : ∀ u c, C c → P u → P (u.execSt c))
    (t : List Cmd) (ht : ∀ c ∈ t, C c) (u : Gear) (hu : P u) : P (t.foldl Gear.execSt u) := by
  induction t generalizing u with
  | nil => exact hu
  | cons c t ih =>
    exact ih (fun d hd => ht d (List.mem_cons_of_mem _ hd)) _ (hP u c (ht c (List.mem_cons_self ..)) hu)

theorem foldl_v_quiet (t : List Cmd) (h : ∀ c ∈ t, IsQuiet c) (u : Gear) :
    (t.foldl Gear.execSt u).v = u.v :=
  foldl_execSt_inv (fun w => w.v = u.v) IsQuiet (fun w c hc hw => (v_quiet w c hc).trans hw) t h u rfl

theorem view_quiet {α : Type} (p : Prog α) (b : Bus) (h : ∀ c ∈ (runBus p b).trace, IsQuiet c) :
    view (runBus p b).st = view b := by
  rw [runBus_st]
  simp only [view, List.map_map]
  apply List.map_congr_left
  intro u _
  exact foldl_v_quiet _ h u

theorem Synced_exec (b : Bus) (c : Cmd) (m : Nat)
    (h : ∀ u : Gear, ((u.execSt c).init ≠ .disabled → u.init ≠ .disabled) ∧ (u.execSt c).search = u.search)
    (hs : Synced b m) : Synced (Bus.exec b c).2 m := by
  rw [Bus.exec_st]
  intro v hv
  simp only [List.mem_map] at hv
  obtain ⟨u, hu, rfl⟩ := hv
  intro hd
  rw [(h u).2]
  exact hs u hu ((h u).1 hd)

theorem Synced_prog (b : Bus) (a m : Nat) (hs : Synced b m) : Synced (Bus.exec b (.programShort a)).2 m := by
  apply Synced_exec _ _ _ _ hs
  intro u
  simp only [Gear.execSt, Cmd.devicetype, if_true, Gear.step]
  split <;> simp [Gear.tick]

theorem Synced_verify (b : Bus) (a m : Nat) (hs : Synced b m) : Synced (Bus.exec b (.verifyShort a)).2 m := by
  apply Synced_exec _ _ _ _ hs
  intro u
  simp [Gear.execSt, Cmd.devicetype, Gear.step, Gear.tick]

theorem combine_isYes (l : List Nat) : (combine l).isYes = true ↔ l ≠ [] := by
  match l with
  | [] => simp [combine, Resp.isYes]
  | [x] => simp [combine, Resp.isYes]
  | x :: y :: l => simp [combine, Resp.isYes]

theorem exec_isYes (b : Bus) (c : Cmd) (hdt : c.devicetype = 0) :
    (Bus.exec b c).1.isYes = true ↔ ∃ u ∈ b, (u.step c).1 ≠ none := by
  rw [exec_of_dt0 b c hdt]
  simp [Bus.frame, combine_isYes]

theorem exists_view (b : Bus) (P : V → Prop) : (∃ v ∈ view b, P v) ↔ ∃ u ∈ b, P u.v := by
  simp only [view, List.mem_map]
  constructor
  · rintro ⟨_, ⟨u, hu, rfl⟩, h⟩; exact ⟨u, hu, h⟩
  · rintro ⟨u, hu, h⟩; exact ⟨_, ⟨u, hu, rfl⟩, h⟩

theorem verify_isYes (b : Bus) (a : Nat) :
    (Bus.exec b (.verifyShort a)).1.isYes = true ↔
      ∃ v ∈ view b, v.init ≠ .disabled ∧ v.short = some a ∧ v.noVerify = false := by
  rw [exec_isYes b _ rfl, exists_view]
  simp [Gear.step, Gear.v]

theorem present_isYes (b : Bus) (a : Nat) :
    (Bus.exec b (.queryGearPresent (.short a))).1.isYes = true ↔ ∃ v ∈ view b, v.short = some a := by
  rw [exec_isYes b _ rfl, exists_view]
  simp [Gear.step, Gear.v, Gear.addressed]

def enRV (L : List V) : List Nat := L.filterMap (fun v => if v.init = .enabled then some v.random else none)
def nWd (L : List V) : Nat := L.countP (fun v => v.init == .withdrawn)
def NoFault (L : List V) : Prop := ∀ v ∈ L, v.noStore = false ∧ v.noVerify = false

theorem enR_view (b : Bus) : enR b = enRV (view b) := by
  simp only [enR, enRV, view, List.filterMap_map]
  rfl

theorem nWd_map (L : List V) (f : V → V) (h : ∀ v, (f v).init = v.init) : nWd (L.map f) = nWd L := by
  simp only [nWd, List.countP_map]
  congr 1
  funext v
  simp only [Function.comp, h v]

theorem length_filter_ne (l : List Nat) (m : Nat) : (l.filter (· != m)).length + l.count m = l.length := by
  induction l with
  | nil => rfl
  | cons x l ih => by_cases h : x = m <;> simp [h] <;> omega

theorem wd_enRV (L : List V) (m : Nat) : enRV (L.map (V.wd m)) = (enRV L).filter (· != m) := by
  induction L with
  | nil => rfl
  | cons v L ih =>
    simp only [enRV, List.map_cons, List.filterMap_cons] at ih ⊢
    by_cases he : v.init = .enabled <;> by_cases hr : v.random = m <;> simp [V.wd, he, hr, ih]

theorem wd_nWd (L : List V) (m : Nat) : nWd (L.map (V.wd m)) = nWd L + (enRV L).count m := by
  induction L with
  | nil => rfl
  | cons v L ih =>
    simp only [nWd, enRV, List.map_cons, List.filterMap_cons, List.countP_cons] at ih ⊢
    by_cases he : v.init = .enabled <;> by_cases hr : v.random = m <;> simp [V.wd, he, hr, ih] <;> omega

theorem NoFault_map (L : List V) (f : V → V) (h : ∀ v, (f v).noStore = v.noStore ∧ (f v).noVerify = v.noVerify)
    (hL : NoFault L) : NoFault (L.map f) := by
  intro v hv
  simp only [List.mem_map] at hv
  obtain ⟨w, hw, rfl⟩ := hv
  rw [(h w).1, (h w).2]
  exact hL w hw

theorem prog_flags (m a : Nat) (v : V) :
    (V.prog m a v).noStore = v.noStore ∧ (V.prog m a v).noVerify = v.noVerify := by
  simp only [V.prog]; split <;> exact ⟨rfl, rfl⟩

theorem wd_flags (m : Nat) (v : V) : (V.wd m v).noStore = v.noStore ∧ (V.wd m v).noVerify = v.noVerify := by
  simp only [V.wd]; split <;> exact ⟨rfl, rfl⟩

/-- on a fault-free bus the unit found confirms the address just programmed -/
theorem verify_confirms (L : List V) (m a : Nat) (hf : NoFault L) (hm : m ∈ enRV L) :
    ∃ v ∈ L.map (V.prog m a), v.init ≠ .disabled ∧ v.short = some a ∧ v.noVerify = false := by
  simp only [enRV, List.mem_filterMap] at hm
  obtain ⟨v, hv, h⟩ := hm
  split at h
  · rename_i he
    injection h with h
    refine ⟨V.prog m a v, List.mem_map_of_mem hv, ?_⟩
    have hd : v.init ≠ .disabled := by rw [he]; decide
    have := hf v hv
    simp [V.prog, hd, h, this.1, this.2]
  · cases h


theorem wd_cases (m : Nat) (v : V) :
    (V.wd m v).random = v.random ∧ (V.wd m v).short = v.short ∧
    ((V.wd m v).init = .withdrawn → v.init = .withdrawn ∨ (v.init = .enabled ∧ v.random = m)) ∧
    ((V.wd m v).init = .enabled → v.init = .enabled ∧ v.random ≠ m) := by
  simp only [V.wd]
  split
  · rename_i h; exact ⟨rfl, rfl, fun _ => Or.inr h, fun h' => by cases h'⟩
  · rename_i h; exact ⟨rfl, rfl, fun h' => Or.inl h', fun h' => ⟨h', fun e => h ⟨h', e⟩⟩⟩

theorem prog_cases (m a : Nat) (v : V) :
    (V.prog m a v).random = v.random ∧ (V.prog m a v).init = v.init ∧
    (v.random ≠ m → (V.prog m a v).short = v.short) := by
  simp only [V.prog]
  split
  · rename_i h; exact ⟨rfl, rfl, fun e => absurd h.2.1 e⟩
  · exact ⟨rfl, rfl, fun _ => rfl⟩

theorem prog_enRV (L : List V) (m a : Nat) : enRV (L.map (V.prog m a)) = enRV L :=
  filterMap_map_of_pres _ _ (fun v => by simp only [(prog_cases m a v).2.1, (prog_cases m a v).1]) L

/-- `yield Withdraw()` and the rest of the iteration -/
def innerRest (dry : Bool) (fuel m : Nat) (avail' : List Nat) (handed' : List (Nat × Nat)) : Prog InnerRes :=
  .tell .withdraw <|
    if m < HIGH then inner dry fuel (m + 1) avail' handed' else .done (.finished avail' handed')

/-- the inner loop body after `_find_next` returned the random address `m` -/
def afterFound (dry : Bool) (fuel m : Nat) (avail : List Nat) (handed : List (Nat × Nat)) : Prog InnerRes :=
  .note .progress <|
    match avail with
    | new :: avail' =>
      if dry then .note .progress <| innerRest dry fuel m avail' (handed ++ [(m, new)])
      else
        .note .progress <|
        .tell (.programShort new) <|
        .send (.verifyShort new) fun r =>
          if r.isYes then innerRest dry fuel m avail' (handed ++ [(m, new)])
          else .fail .ProgramShortAddressFailure
    | [] => .note .progress <| innerRest dry fuel m [] handed

theorem inner_eq (dry : Bool) (fuel low : Nat) (avail : List Nat) (handed : List (Nat × Nat)) :
    inner dry (fuel + 1) low avail handed =
      .note .progress ((findNext 25 low HIGH).bind fun res =>
        match res with
        | .clash => .note .progress <| .done (.clash avail handed)
        | .none => .done (.finished avail handed)
        | .found m => afterFound dry fuel m avail handed) := by
  rfl

theorem runBus_tell {α : Type} (c : Cmd) (k : Prog α) (b : Bus) :
    runBus (Prog.tell c k) b =
      ⟨(runBus k (Bus.exec b c).2).res, (runBus k (Bus.exec b c).2).st, c :: (runBus k (Bus.exec b c).2).trace⟩ := rfl

theorem runBus_send {α : Type} (c : Cmd) (k : Resp → Prog α) (b : Bus) :
    runBus (Prog.send c k) b =
      ⟨(runBus (k (Bus.exec b c).1) (Bus.exec b c).2).res, (runBus (k (Bus.exec b c).1) (Bus.exec b c).2).st,
        c :: (runBus (k (Bus.exec b c).1) (Bus.exec b c).2).trace⟩ := rfl

theorem runBus_note {α : Type} (n : Note) (k : Prog α) (b : Bus) : runBus (Prog.note n k) b = runBus k b := rfl

theorem view_withdraw (b : Bus) (m : Nat) (hs : Synced b m) :
    view (Bus.exec b .withdraw).2 = (view b).map (V.wd m) :=
  view_exec b _ _ (fun u hu => v_wd u m (hs u hu))

theorem view_program (b : Bus) (m a : Nat) (hs : Synced b m) :
    view (Bus.exec b (.programShort a)).2 = (view b).map (V.prog m a) :=
  view_exec b _ _ (fun u hu => v_prog u m a (hs u hu))

theorem view_exec_quiet (b : Bus) (c : Cmd) (hc : IsQuiet c) : view (Bus.exec b c).2 = view b := by
  rw [view_exec b c id fun u _ => v_quiet u c hc, List.map_id]

theorem isQuiet_of_isSearch (c : Cmd) (h : IsSearch c) : IsQuiet c := by
  cases c <;> first | exact h.elim | trivial

theorem view_findNext (fuel low high : Nat) (b : Bus) :
    view (runBus (findNext fuel low high) b).st = view b :=
  view_quiet _ b (fun c hc => isQuiet_of_isSearch c ((findNext_only fuel low high).trace Bus.exec b c hc))

/-- the commands of the inner loop; PROGRAM SHORT ADDRESS only when not a dry run -/
def IsInner (dry : Bool) : Cmd → Prop
  | .searchH _ | .searchM _ | .searchL _ | .compare | .withdraw | .verifyShort _ => True
  | .programShort _ => dry = false
  | _ => False

def IsOuter (dry : Bool) (c : Cmd) : Prop := c = .randomise ∨ IsInner dry c

theorem isInner_of_isSearch (dry : Bool) (c : Cmd) (h : IsSearch c) : IsInner dry c := by
  cases c <;> first | exact h.elim | trivial

theorem inner_only (dry : Bool) : ∀ (fuel low : Nat) (avail : List Nat) (handed : List (Nat × Nat)),
    Only (IsInner dry) (inner dry fuel low avail handed) := by
  intro fuel
  induction fuel with
  | zero => intro _ _ _; exact Only.spin
  | succ fuel ih =>
    intro low avail handed
    rw [inner_eq]
    refine Only.note _ _ (Only.bind ((findNext_only _ _ _).mono (isInner_of_isSearch dry)) ?_)
    intro res
    have hrest : ∀ m av' h', Only (IsInner dry) (innerRest dry fuel m av' h') := by
      intro m av' h'
      unfold innerRest
      refine Only.tell trivial ?_
      split
      · exact ih _ _ _
      · exact Only.done _
    match res with
    | .clash => exact Only.note _ _ (Only.done _)
    | .none => exact Only.done _
    | .found m =>
      unfold afterFound
      refine Only.note _ _ ?_
      match avail with
      | [] => exact Only.note _ _ (hrest _ _ _)
      | new :: avail' =>
        cases dry with
        | true => exact Only.note _ _ (hrest _ _ _)
        | false =>
          refine Only.note _ _ (Only.tell rfl (Only.send _ _ trivial ?_))
          intro r
          split
          · exact hrest _ _ _
          · exact Only.fail _

theorem progArgs_append (t u : List Cmd) : progArgs (t ++ u) = progArgs t ++ progArgs u := by
  simp [progArgs, List.filterMap_append]

theorem progArgs_nil (t : List Cmd) (h : ∀ c ∈ t, ∀ a, c ≠ .programShort a) : progArgs t = [] := by
  unfold progArgs
  rw [List.filterMap_eq_nil_iff]
  intro c hc
  have := h c hc
  cases c <;> first | rfl | exact absurd rfl (this _)

theorem progArgs_search (t : List Cmd) (h : ∀ c ∈ t, IsSearch c) : progArgs t = [] :=
  progArgs_nil t (fun c hc a e => by have := h c hc; rw [e] at this; exact this)


/-- the search just returned `m` on a bus with views `L`, called with lower bound `low` -/
structure Found (L : List V) (low m : Nat) : Prop where
  lo : low ≤ m
  mem : m ∈ enRV L
  one : (enRV L).count m = 1
  least : ∀ r ∈ enRV L, m ≤ r
  top : ∀ r ∈ enRV L, r ≤ HIGH

/-- What the rest `o` of a round guarantees, started at a loop head on bus `b` with lower bound `low`, permitted
list `avail` and ghost log `handed`; `B` bounds the commands, `I` is any invariant of the iterations of a run that
is not a dry run. -/
structure Round (dry : Bool) (I : List V → Nat → List (Nat × Nat) → Prop) (B : Nat)
    (b : Bus) (low : Nat) (avail : List Nat) (handed : List (Nat × Nat)) (o : Out Bus InnerRes) : Prop where
  nofuel : o.res ≠ .outOfFuel
  pre : dry = false → progArgs o.trace <+: avail
  -- a potential: an iteration costs at most 199 commands and retires one ENABLED unit
  len : o.trace.length + 199 * (enRV (view o.st)).length ≤ B
  raise : ∀ e, o.res = .raised e → e = .ProgramShortAddressFailure ∧ dry = false ∧ ¬ NoFault (view b) ∧
    ∃ t a, o.trace = t ++ [Cmd.programShort a, Cmd.verifyShort a]
  fin : ∀ av' h', o.res = .ret (.finished av' h') → enRV (view o.st) = []
  noclash : (enRV (view b)).Nodup → ∀ av' h', o.res ≠ .ret (.clash av' h')
  ret : ∀ av' h', (o.res = .ret (.clash av' h') ∨ o.res = .ret (.finished av' h')) →
    h'.map Prod.snd ++ av' = handed.map Prod.snd ++ avail ∧
    (dry = false → progArgs o.trace ++ av' = avail) ∧
    (enRV (view o.st)).length + nWd (view o.st) = (enRV (view b)).length + nWd (view b) ∧
    (handed.length = min (nWd (view b)) (handed.length + avail.length) →
      h'.length = min (nWd (view o.st)) (h'.length + av'.length)) ∧
    (dry = false → I (view b) low handed → ∃ low', I (view o.st) low' h')

/-- One iteration.  The search found `m` on `b`; after the search (`t0`) the commands `t` lead to the next loop head
`(b', m + 1, av1, h1)`, where the views are `L'` (what PROGRAM SHORT ADDRESS made of them, or `view b` itself) after
WITHDRAW; `o'` is the rest of the round from there. -/
theorem Round.iterate {dry : Bool} {I : List V → Nat → List (Nat × Nat) → Prop}
    {b b' : Bus} {low m : Nat} {avail av1 : List Nat} {handed h1 : List (Nat × Nat)} {o' : Out Bus InnerRes}
    (F : Found (view b) low m) (L' : List V) (hv : view b' = L'.map (V.wd m))
    (hen : enRV L' = enRV (view b)) (hwd : nWd L' = nWd (view b)) (hnf : NoFault (view b) → NoFault L')
    (t0 t : List Cmd) (ht0 : progArgs t0 = []) (hlen : t0.length + t.length ≤ 199)
    (hargs : dry = false → progArgs t ++ av1 = avail)
    (hlog : h1.map Prod.snd ++ av1 = handed.map Prod.snd ++ avail)
    (hmin : handed.length = min (nWd (view b)) (handed.length + avail.length) →
      h1.length = min (nWd (view b) + 1) (h1.length + av1.length))
    (hI : dry = false → I (view b) low handed → I (L'.map (V.wd m)) (m + 1) h1)
    (R : (∀ r ∈ enRV (view b'), m + 1 ≤ r ∧ r ≤ HIGH) →
      Round dry I (199 * (enRV (view b')).length + 198) b' (m + 1) av1 h1 o') :
    Round dry I (199 * (enRV (view b)).length + 198) b low avail handed
      ⟨o'.res, o'.st, t0 ++ (t ++ o'.trace)⟩ := by
  have hf := wd_enRV L' m
  have n1 := length_filter_ne (enRV (view b)) m
  have n2 := wd_nWd L' m
  rw [← hv, hen] at hf
  rw [← hf, F.one] at n1
  rw [← hv, hen, F.one, hwd] at n2
  have R := R fun r hr => by
    rw [hf, List.mem_filter] at hr
    have := F.least r hr.1; have := F.top r hr.1; have : r ≠ m := by simpa using hr.2
    omega
  have hargs' : ∀ u, progArgs (t0 ++ (t ++ u)) = progArgs t ++ progArgs u := fun u => by
    rw [progArgs_append, progArgs_append, ht0, List.nil_append]
  exact {
    nofuel := R.nofuel
    pre := fun hd => by
      rw [hargs', ← hargs hd]
      exact (List.prefix_append_right_inj _).mpr (R.pre hd)
    len := by have := R.len; simp only [List.length_append]; omega
    raise := fun e he => by
      obtain ⟨a1, a2, a3, t', a, ht⟩ := R.raise e he
      refine ⟨a1, a2, fun nf => a3 ?_, t0 ++ (t ++ t'), a, ?_⟩
      · rw [hv]; exact NoFault_map _ _ (wd_flags m) (hnf nf)
      · rw [ht]; simp only [List.append_assoc]
    fin := R.fin
    noclash := fun nd => R.noclash (hf ▸ List.filter_sublist.nodup nd)
    ret := fun av' h' hr => by
      obtain ⟨r1, r2, r3, r4, r5⟩ := R.ret av' h' hr
      refine ⟨r1.trans hlog, fun hd => ?_, r3.trans (by omega), fun h => r4 (by rw [n2]; exact hmin h),
        fun hd h => r5 hd (by rw [hv]; exact hI hd h)⟩
      rw [hargs', List.append_assoc, r2 hd, hargs hd] }

/-- the loop is left normally, on a bus `st` that looks like `b`, after the commands `t`: "finished" when no unit is
ENABLED any more, a clash when two ENABLED units share a random address -/
theorem Round.stop {dry : Bool} {I : List V → Nat → List (Nat × Nat) → Prop} {B : Nat}
    {b : Bus} {low : Nat} {avail : List Nat} {handed : List (Nat × Nat)} (r : InnerRes) (st : Bus) (t : List Cmd)
    (hr : r = .clash avail handed ∨ r = .finished avail handed) (hv : view st = view b) (ht : progArgs t = [])
    (hlen : t.length + 199 * (enRV (view b)).length ≤ B)
    (hend : match r with
      | .finished _ _ => enRV (view b) = []
      | .clash _ _ => ¬ (enRV (view b)).Nodup) :
    Round dry I B b low avail handed ⟨.ret r, st, t⟩ where
  nofuel h := by cases h
  pre _ := by rw [ht]; exact List.nil_prefix
  len := by rw [hv]; exact hlen
  raise e he := by cases he
  fin av h he := by injection he with he; subst he; rw [hv]; exact hend
  noclash nd av h he := by injection he with he; subst he; exact hend nd
  ret av' h' hr' := by
    obtain ⟨rfl, rfl⟩ : av' = avail ∧ h' = handed := by
      rcases hr with rfl | rfl <;> rcases hr' with he | he <;> cases he <;> exact ⟨rfl, rfl⟩
    rw [hv, ht]
    exact ⟨rfl, fun _ => rfl, rfl, id, fun _ h => ⟨low, h⟩⟩

/-- the loop is left by ProgramShortAddressFailure: after the commands `t`, VERIFY SHORT ADDRESS `a` is not confirmed -/
theorem Round.fail {dry : Bool} {I : List V → Nat → List (Nat × Nat) → Prop} {B : Nat}
    {b : Bus} {low : Nat} {avail : List Nat} {handed : List (Nat × Nat)} (st : Bus) (t : List Cmd) (a : Nat)
    (av' : List Nat) (hd : dry = false) (ha : avail = a :: av') (ht : progArgs t = [])
    (hlen : t.length + 2 + 199 * (enRV (view st)).length ≤ B) (hnf : ¬ NoFault (view b)) :
    Round dry I B b low avail handed
      ⟨.raised .ProgramShortAddressFailure, st, t ++ [.programShort a, .verifyShort a]⟩ where
  nofuel h := by cases h
  pre _ := by rw [progArgs_append, ht, ha]; exact List.cons_prefix_cons.mpr ⟨rfl, List.nil_prefix⟩
  len := by simp only [List.length_append, List.length_cons, List.length_nil]; omega
  raise e he := by injection he with he; exact ⟨he.symm, hd, hnf, t, a, rfl⟩
  fin _ _ h := by cases h
  noclash _ _ _ h := by cases h
  ret _ _ h := by rcases h with h | h <;> cases h

/-- `_find_next(low, HIGH)` at a loop head: `findNext_bus` with `FN.findNext_spec`, and the search leaves every view
alone and programs nothing -/
theorem findNext_head (b : Bus) (low : Nat) (hl : low ≤ HIGH) (hR : ∀ r ∈ enR b, low ≤ r) :
    (runBus (findNext 25 low HIGH) b).res = .ret (FN.findNext (enR b) 25 low HIGH) ∧
    FN.Spec (enR b) HIGH (FN.findNext (enR b) 25 low HIGH) ∧
    (runBus (findNext 25 low HIGH) b).trace.length ≤ 196 ∧
    (FN.findNext (enR b) 25 low HIGH = .none → (runBus (findNext 25 low HIGH) b).trace.length = 4) ∧
    (∀ m, FN.findNext (enR b) 25 low HIGH = .found m → Synced (runBus (findNext 25 low HIGH) b).st m) ∧
    view (runBus (findNext 25 low HIGH) b).st = view b ∧ progArgs (runBus (findNext 25 low HIGH) b).trace = [] := by
  have hw : HIGH - low < 2 ^ 24 := by simp [HIGH]; omega
  obtain ⟨f1, f2, f3, f4, _⟩ := findNext_bus b 24 low HIGH hl hw (by decide) hR
  exact ⟨f1, FN.findNext_spec (enR b) 24 low HIGH hl hw hR, f2, f3, f4, view_findNext 25 low HIGH b,
    progArgs_search _ ((findNext_only 25 low HIGH).trace Bus.exec b)⟩

/-- **the inner loop on the specification bus** (any bus size, any random addresses): every iteration finds the
least random address among the units still ENABLED and withdraws exactly that unit.  `I` is any invariant of
(views, lower bound, ghost log) that survives the iterations of a run that is not a dry run:
program + confirmed verify + withdraw; withdraw with nothing left to hand out. -/
theorem inner_bus (dry : Bool) (I : List V → Nat → List (Nat × Nat) → Prop)
    (step_prog : ∀ L low m new h, I L low h → Found L low m →
      (∃ v ∈ L.map (V.prog m new), v.init ≠ .disabled ∧ v.short = some new ∧ v.noVerify = false) →
      I ((L.map (V.prog m new)).map (V.wd m)) (m + 1) (h ++ [(m, new)]))
    (step_empty : ∀ L low m h, I L low h → Found L low m → I (L.map (V.wd m)) (m + 1) h) :
    ∀ (fuel low : Nat) (avail : List Nat) (handed : List (Nat × Nat)) (b : Bus),
    low ≤ HIGH → HIGH + 1 - low < fuel → (∀ r ∈ enRV (view b), low ≤ r ∧ r ≤ HIGH) →
    Round dry I (199 * (enRV (view b)).length + 198) b low avail handed
      (runBus (inner dry fuel low avail handed) b) := by
  intro fuel
  induction fuel with
  | zero => intro low _ _ _ _ h; omega
  | succ fuel ih =>
    intro low avail handed b hl hfuel hR
    have hh := findNext_head b low hl
    rw [enR_view] at hh
    obtain ⟨f1, spec, f2, f3, f4, hv1, hts⟩ := hh fun r hr => (hR r hr).1
    rw [inner_eq, runBus_note]
    simp only [runBus] at f1 f2 f3 f4 hv1 hts ⊢
    rw [run_bind, f1]
    dsimp only
    generalize Prog.run Bus.exec (findNext 25 low HIGH) b = o1 at f2 f3 f4 hv1 hts ⊢
    generalize FN.findNext (enRV (view b)) 25 low HIGH = res at spec f3 f4 ⊢
    cases res with
    | none =>
      have hnil : enRV (view b) = [] :=
        List.eq_nil_iff_forall_not_mem.mpr fun r hr => by have := spec r hr; have := (hR r hr).2; omega
      simp only [Prog.run, List.append_nil]
      exact Round.stop _ _ _ (Or.inr rfl) hv1 hts (by rw [hnil, f3 rfl]; simp) hnil
    | clash =>
      obtain ⟨m, _, _, _, h2⟩ := spec
      simp only [Prog.run, List.append_nil]
      exact Round.stop _ _ _ (Or.inl rfl) hv1 hts (by omega)
        fun nd => by have := List.nodup_iff_count.mp nd m; omega
    | found m =>
      obtain ⟨s1, _, s3, s4⟩ := spec
      have hsy := f4 m rfl
      have F : Found (view b) low m := ⟨(hR m s1).1, s1, s4, s3, fun r hr => (hR r hr).2⟩
      -- the rest of the round from the next loop head
      have tail : ∀ av1 h1 b', (∀ r ∈ enRV (view b'), m + 1 ≤ r ∧ r ≤ HIGH) →
          Round dry I (199 * (enRV (view b')).length + 198) b' (m + 1) av1 h1
            (runBus (if m < HIGH then inner dry fuel (m + 1) av1 h1 else .done (.finished av1 h1)) b') := by
        intro av1 h1 b' n3
        split
        · exact ih (m + 1) av1 h1 b' (by omega) (by have := F.lo; omega) n3
        · have hnil : enRV (view b') = [] :=
            List.eq_nil_iff_forall_not_mem.mpr fun r hr => by have := n3 r hr; omega
          exact Round.stop _ _ _ (Or.inr rfl) rfl rfl (by rw [hnil]; simp) hnil
      have hv4 : view (Bus.exec o1.st .withdraw).2 = (view b).map (V.wd m) := by
        rw [view_withdraw _ m hsy, hv1]
      change Round _ _ _ _ _ _ _ ⟨(runBus (afterFound dry fuel m avail handed) o1.st).res,
        (runBus (afterFound dry fuel m avail handed) o1.st).st,
        o1.trace ++ (runBus (afterFound dry fuel m avail handed) o1.st).trace⟩
      unfold afterFound innerRest
      rw [runBus_note]
      cases avail with
      | nil =>
        simp only [runBus_note, runBus_tell]
        exact Round.iterate F (L' := view b) (hv := hv4) (hen := rfl) (hwd := rfl) (hnf := id)
          (t0 := o1.trace) (t := [.withdraw]) (ht0 := hts) (hlen := by simp; omega) (hargs := fun _ => rfl) (hlog := rfl)
          (hmin := fun h => by simp only [List.length_nil] at h ⊢; omega) (hI := fun _ h => step_empty _ _ _ _ h F)
          (R := tail _ _ _)
      | cons new avail' =>
        cases dry with
        | true =>
          simp only [if_true, runBus_note, runBus_tell]
          exact Round.iterate F (L' := view b) (hv := hv4) (hen := rfl) (hwd := rfl) (hnf := id)
            (t0 := o1.trace) (t := [.withdraw]) (ht0 := hts) (hlen := by simp; omega) (hargs := fun h => by cases h)
            (hlog := by simp)
            (hmin := fun h => by simp only [List.length_append, List.length_cons, List.length_nil] at h ⊢; omega)
            (hI := fun h => by cases h) (R := tail _ _ _)
        | false =>
          simp only [Bool.false_eq_true, if_false, runBus_note, runBus_tell, runBus_send]
          have hs3 := Synced_verify _ new m (Synced_prog o1.st new m hsy)
          have hv2 : view (Bus.exec o1.st (.programShort new)).2 = (view b).map (V.prog m new) := by
            rw [view_program _ m new hsy, hv1]
          have hv3 : view (Bus.exec (Bus.exec o1.st (.programShort new)).2 (.verifyShort new)).2 =
              (view b).map (V.prog m new) := by rw [view_exec_quiet _ (.verifyShort new) trivial, hv2]
          have hyes := verify_isYes (Bus.exec o1.st (.programShort new)).2 new
          rw [hv2] at hyes
          by_cases hy : (Bus.exec (Bus.exec o1.st (.programShort new)).2 (.verifyShort new)).1.isYes = true
          · simp only [hy, if_true, runBus_tell]
            exact Round.iterate F (L' := (view b).map (V.prog m new)) (hv := by rw [view_withdraw _ m hs3, hv3])
              (hen := prog_enRV _ m new) (hwd := nWd_map _ _ fun v => (prog_cases m new v).2.1)
              (hnf := NoFault_map _ _ (prog_flags m new))
              (t0 := o1.trace) (t := [.programShort new, .verifyShort new, .withdraw]) (ht0 := hts)
              (hlen := by simp; omega) (hargs := fun _ => rfl) (hlog := by simp)
              (hmin := fun h => by simp only [List.length_append, List.length_cons, List.length_nil] at h ⊢; omega)
              (hI := fun _ h => step_prog _ _ _ _ _ h F (hyes.mp hy)) (R := tail _ _ _)
          · simp only [hy, Bool.false_eq_true, if_false, runBus, Prog.run]
            exact Round.fail _ o1.trace new avail' rfl rfl hts (by rw [hv3, prog_enRV]; omega)
              fun nf => hy (hyes.mpr (verify_confirms (view b) m new nf s1))

/-- random addresses are 24-bit: the current one and every future draw -/
def WFv (v : V) : Prop := v.random ≤ HIGH ∧ ∀ d ∈ v.draws, d ≤ HIGH
def WF (L : List V) : Prop := ∀ v ∈ L, WFv v

theorem step_inner_fields (dry : Bool) (u : Gear) (c : Cmd) (h : IsInner dry c) :
    (u.execSt c).random = u.random ∧ (u.execSt c).draws = u.draws ∧ (u.execSt c).noStore = u.noStore ∧
    (u.execSt c).noVerify = u.noVerify ∧ ((u.execSt c).init = .disabled ↔ u.init = .disabled) := by
  cases c <;> (try exact h.elim) <;>
    (simp only [Gear.execSt, Cmd.devicetype, if_true, Gear.step]
     first
      | (simp [Gear.tick]; done)
      | (split <;> simp_all [Gear.tick]))

theorem fold_inner_fields (dry : Bool) (t : List Cmd) (h : ∀ c ∈ t, IsInner dry c) (u : Gear) :
    (t.foldl Gear.execSt u).random = u.random ∧ (t.foldl Gear.execSt u).draws = u.draws ∧
    (t.foldl Gear.execSt u).noStore = u.noStore ∧ (t.foldl Gear.execSt u).noVerify = u.noVerify ∧
    ((t.foldl Gear.execSt u).init = .disabled ↔ u.init = .disabled) :=
  foldl_execSt_inv (fun w => w.random = u.random ∧ w.draws = u.draws ∧ w.noStore = u.noStore ∧
      w.noVerify = u.noVerify ∧ (w.init = .disabled ↔ u.init = .disabled)) (IsInner dry)
    (fun w c hc ⟨a1, a2, a3, a4, a5⟩ => by
      obtain ⟨b1, b2, b3, b4, b5⟩ := step_inner_fields dry w c hc
      exact ⟨b1.trans a1, b2.trans a2, b3.trans a3, b4.trans a4, b5.trans a5⟩)
    t h u ⟨rfl, rfl, rfl, rfl, Iff.rfl⟩

theorem inner_keeps {α : Type} (dry : Bool) (p : Prog α) (b : Bus)
    (h : ∀ c ∈ (runBus p b).trace, IsInner dry c) :
    (WF (view b) → WF (view (runBus p b).st)) ∧ (NoFault (view b) → NoFault (view (runBus p b).st)) := by
  rw [runBus_st]
  simp only [view, List.map_map, WF, NoFault, List.forall_mem_map, Function.comp, Gear.v, WFv]
  constructor
  · intro hw u hu
    obtain ⟨a1, a2, _⟩ := fold_inner_fields dry _ h u
    rw [a1, a2]; exact hw u hu
  · intro hw u hu
    obtain ⟨_, _, a3, a4, _⟩ := fold_inner_fields dry _ h u
    rw [a3, a4]; exact hw u hu

theorem rand_fields (v : V) : (V.rand v).init = v.init ∧ (V.rand v).short = v.short ∧
    (V.rand v).noStore = v.noStore ∧ (V.rand v).noVerify = v.noVerify := by
  simp only [V.rand]; split
  · exact ⟨rfl, rfl, rfl, rfl⟩
  · split <;> exact ⟨rfl, rfl, rfl, rfl⟩

theorem rand_enRV_len (L : List V) : (enRV (L.map V.rand)).length = (enRV L).length := by
  induction L with
  | nil => rfl
  | cons v L ih =>
    simp only [enRV, List.map_cons, List.filterMap_cons, (rand_fields _).1] at ih ⊢
    by_cases he : v.init = .enabled
    · simp only [he, if_true, List.length_cons, ih]
    · simp only [he, if_false, ih]

theorem rand_nWd (L : List V) : nWd (L.map V.rand) = nWd L := nWd_map L _ fun v => (rand_fields v).1

theorem rand_WF (L : List V) (h : WF L) : WF (L.map V.rand) := by
  intro v hv
  simp only [List.mem_map] at hv
  obtain ⟨w, hw, rfl⟩ := hv
  have := h w hw
  simp only [V.rand, WFv] at this ⊢
  split
  · exact this
  · split
    · exact this
    · rename_i d ds hd
      rw [hd] at this
      exact ⟨this.2 d (List.mem_cons_self ..), fun x hx => this.2 x (List.mem_cons_of_mem _ hx)⟩

theorem view_randomise (b : Bus) : view (Bus.exec b .randomise).2 = (view b).map V.rand :=
  view_exec b _ _ (fun u _ => v_rand u)

theorem WF_enRV (L : List V) (h : WF L) : ∀ r ∈ enRV L, 0 ≤ r ∧ r ≤ HIGH := by
  intro r hr
  simp only [enRV, List.mem_filterMap] at hr
  obtain ⟨v, hv, e⟩ := hr
  split at e
  · injection e with e; subst e; exact ⟨Nat.zero_le _, (h v hv).1⟩
  · cases e

theorem countRandomise_append (t u : List Cmd) : countRandomise (t ++ u) = countRandomise t + countRandomise u := by
  simp [countRandomise, List.filter_append]

theorem countRandomise_zero (t : List Cmd) (h : ∀ c ∈ t, c ≠ .randomise) : countRandomise t = 0 := by
  unfold countRandomise
  rw [List.length_eq_zero_iff, List.filter_eq_nil_iff]
  intro c hc
  simpa using h c hc

theorem countRandomise_inner (dry : Bool) (t : List Cmd) (h : ∀ c ∈ t, IsInner dry c) : countRandomise t = 0 :=
  countRandomise_zero t fun c hc e => by have := h c hc; rw [e] at this; exact this


def heldCount (a : Nat) (L : List V) : Nat := L.countP (fun v => v.init == .withdrawn && v.short == some a)

/-- the invariant of a first round (no re-randomisation yet, empty ghost log to begin with) on a fault-free bus, not a
dry run -/
structure Hold (L : List V) (low : Nat) (h : List (Nat × Nat)) : Prop where
  wlow : ∀ v ∈ L, v.init = .withdrawn → v.random < low
  enone : ∀ v ∈ L, v.init = .enabled → v.short = none
  nf : NoFault L
  cnt : ∀ a, heldCount a L = (h.map Prod.snd).count a

theorem heldCount_cons (a : Nat) (v : V) (L : List V) :
    heldCount a (v :: L) = heldCount a L + (if v.init = .withdrawn ∧ v.short = some a then 1 else 0) := by
  unfold heldCount
  rw [List.countP_cons]
  congr 1
  by_cases h1 : v.init = .withdrawn <;> by_cases h2 : v.short = some a <;> simp [h1, h2]

theorem heldCount_step (a m new : Nat) (L : List V) (hw : ∀ v ∈ L, v.init = .withdrawn → v.random ≠ m)
    (hf : NoFault L) :
    heldCount a ((L.map (V.prog m new)).map (V.wd m)) =
      heldCount a L + (if a = new then (enRV L).count m else 0) := by
  induction L with
  | nil => simp [heldCount, enRV]
  | cons v L ih =>
    have ih' := ih (fun w hw' => hw w (List.mem_cons_of_mem _ hw')) (fun w hw' => hf w (List.mem_cons_of_mem _ hw'))
    have hwv := hw v (List.mem_cons_self ..)
    have hfv := hf v (List.mem_cons_self ..)
    simp only [List.map_cons, heldCount_cons, ih']
    simp only [enRV, List.filterMap_cons]
    cases hi : v.init with
    | disabled =>
      simp [V.prog, V.wd, hi]
    | withdrawn =>
      have := hwv hi
      simp [V.prog, V.wd, hi, this]
      split <;> omega
    | enabled =>
      by_cases hr : v.random = m
      · by_cases ha : a = new
        · subst ha
          simp [V.prog, V.wd, hi, hr, hfv.1]
          omega
        · have ha' : ¬ new = a := fun e => ha e.symm
          simp [V.prog, V.wd, hi, hr, hfv.1, ha, ha']
      · simp [V.prog, V.wd, hi, hr, List.count_cons]

theorem heldCount_wd (a m : Nat) (L : List V) (he : ∀ v ∈ L, v.init = .enabled → v.short = none) :
    heldCount a (L.map (V.wd m)) = heldCount a L := by
  induction L with
  | nil => rfl
  | cons v L ih =>
    have ih' := ih (fun w hw' => he w (List.mem_cons_of_mem _ hw'))
    have hev := he v (List.mem_cons_self ..)
    simp only [List.map_cons, heldCount_cons, ih']
    cases hi : v.init with
    | disabled => simp [V.wd, hi]
    | withdrawn => simp [V.wd, hi]
    | enabled =>
      have := hev hi
      by_cases hr : v.random = m <;> simp [V.wd, hi, hr, this]


theorem Hold.step_prog {L : List V} {low m new : Nat} {h : List (Nat × Nat)}
    (H : Hold L low h) (F : Found L low m) :
    Hold ((L.map (V.prog m new)).map (V.wd m)) (m + 1) (h ++ [(m, new)]) := by
  refine ⟨?_, ?_, ?_, ?_⟩
  · simp only [List.forall_mem_map]
    intro v hv hi
    obtain ⟨w1, _, w3, _⟩ := wd_cases m (V.prog m new v)
    obtain ⟨p1, p2, _⟩ := prog_cases m new v
    rw [w1, p1]
    rcases w3 hi with h1 | ⟨_, h2⟩
    · rw [p2] at h1
      have := H.wlow v hv h1; have := F.lo; omega
    · rw [p1] at h2; omega
  · simp only [List.forall_mem_map]
    intro v hv hi
    obtain ⟨w1, w2, _, w4⟩ := wd_cases m (V.prog m new v)
    obtain ⟨p1, p2, p3⟩ := prog_cases m new v
    obtain ⟨h1, h2⟩ := w4 hi
    rw [w2, p3 (by rw [← p1]; exact h2)]
    exact H.enone v hv (by rw [← p2]; exact h1)
  · exact NoFault_map _ _ (wd_flags m) (NoFault_map _ _ (prog_flags m new) H.nf)
  · intro a
    rw [heldCount_step a m new L (fun v hv hi => by have := H.wlow v hv hi; have := F.lo; omega) H.nf, H.cnt a,
      F.one, List.map_append, List.count_append]
    simp only [List.map_cons, List.map_nil, List.count_cons, List.count_nil]
    by_cases ha : a = new
    · subst ha; simp
    · have : ¬ new = a := fun e => ha e.symm
      simp [ha, this]

theorem Hold.step_empty {L : List V} {low m : Nat} {h : List (Nat × Nat)}
    (H : Hold L low h) (F : Found L low m) : Hold (L.map (V.wd m)) (m + 1) h := by
  refine ⟨?_, ?_, NoFault_map _ _ (wd_flags m) H.nf, ?_⟩
  · simp only [List.forall_mem_map]
    intro v hv hi
    obtain ⟨w1, _, w3, _⟩ := wd_cases m v
    rw [w1]
    rcases w3 hi with h1 | ⟨_, h2⟩
    · have := H.wlow v hv h1; have := F.lo; omega
    · omega
  · simp only [List.forall_mem_map]
    intro v hv hi
    obtain ⟨_, w2, _, w4⟩ := wd_cases m v
    rw [w2]
    exact H.enone v hv (w4 hi).1
  · intro a
    rw [heldCount_wd a m L H.enone, H.cnt a]

/-- for every ghost-log entry `(m, a)` of this round: `m` is below the current lower bound, and every unit in
initialisation mode with random address `m` that stores addresses — in particular the unit found — holds `a` -/
def Prg (base : Nat) (L : List V) (low : Nat) (h : List (Nat × Nat)) : Prop :=
  base ≤ h.length ∧ ∀ p ∈ h.drop base, p.1 < low ∧
    ∀ v ∈ L, v.init ≠ .disabled → v.random = p.1 → v.noStore = false → v.short = some p.2

theorem wd_init_ne (m : Nat) (v : V) : (V.wd m v).init ≠ .disabled → v.init ≠ .disabled := by
  simp only [V.wd]
  split
  · rename_i h; intro _; rw [h.1]; decide
  · exact fun h => h

theorem Prg.step_wd {base : Nat} {L : List V} {low m : Nat} {h : List (Nat × Nat)}
    (H : Prg base L low h) (hlo : low ≤ m) : Prg base (L.map (V.wd m)) (m + 1) h := by
  refine ⟨H.1, ?_⟩
  intro p hp
  obtain ⟨q1, q2⟩ := H.2 p hp
  refine ⟨by omega, ?_⟩
  simp only [List.forall_mem_map]
  intro v hv hi hr hs
  obtain ⟨w1, w2, _, _⟩ := wd_cases m v
  rw [w2]
  exact q2 v hv (wd_init_ne m v hi) (by rw [← w1]; exact hr) (by rw [← (wd_flags m v).1]; exact hs)

theorem Prg.step_prog {base : Nat} {L : List V} {low m new : Nat} {h : List (Nat × Nat)}
    (H : Prg base L low h) (hlo : low ≤ m) :
    Prg base ((L.map (V.prog m new)).map (V.wd m)) (m + 1) (h ++ [(m, new)]) := by
  refine ⟨by simp only [List.length_append]; have := H.1; omega, ?_⟩
  intro p hp
  rw [List.drop_append_of_le_length H.1, List.mem_append, List.mem_singleton] at hp
  refine ⟨?_, ?_⟩
  · rcases hp with hp | rfl
    · have := (H.2 p hp).1; omega
    · exact Nat.lt_succ_self m
  simp only [List.forall_mem_map]
  intro v hv hi hr hs
  obtain ⟨w1, w2, _, _⟩ := wd_cases m (V.prog m new v)
  obtain ⟨p1, p2, p3⟩ := prog_cases m new v
  have hd : v.init ≠ .disabled := by have := wd_init_ne m _ hi; rwa [p2] at this
  rw [w1, p1] at hr
  rw [(wd_flags m _).1, (prog_flags m new v).1] at hs
  rw [w2]
  rcases hp with hp | rfl
  · rw [p3 (by have := (H.2 p hp).1; omega)]
    exact (H.2 p hp).2 v hv hd hr hs
  · simp [V.prog, hd, hr, hs]

end DaliVerif.GearSeq
