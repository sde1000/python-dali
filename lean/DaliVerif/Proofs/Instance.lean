import DaliVerif.Proofs.Address
import DaliVerif.Proofs.FrameOps
/-!
# C04's instance byte

`Inst.fromFrame` on a 24-bit frame is a function `ofByteModel` of the byte in bits 15..8; that function is
compared with Table 2 of part 103 (`Spec.instOfByte`) and with `Inst.byte` by `decide` over the 256 bytes.
`add_to_frame` is one slice write, in the arithmetic form `setSliceA`.
-/
set_option linter.unusedSimpArgs false
namespace DaliVerif
open Frame Spec

namespace Inst

/-- the model's classification written on the byte `B = bits 15..8` -/
def ofByteModel (B : Nat) : Inst :=
  let flags := B / 32
  let p := B % 32
  if flags == 0 then number p
  else if flags == 4 then group p
  else if flags == 6 then type p
  else if flags == 1 then featNumber p
  else if flags == 5 then featGroup p
  else if flags == 3 then featType p
  else if B == 0xFD then featBroadcast
  else if B == 0xFF then broadcast
  else if B == 0xFC then featDevice
  else if B == 0xFE then device
  else reserved B

theorem ofByteModel_eq_spec : ∀ B : Fin 256, ofByteModel B.val = instOfByte B.val := by
  decide +kernel

theorem fromFrame_eq_ofByteModel (d : Nat) :
    fromFrame ⟨24, d⟩ = some (ofByteModel (d / 256 % 256)) := by
  have h1 : d / 8192 % 8 = d / 256 % 256 / 32 := by omega
  have h2 : d / 256 % 32 = d / 256 % 256 % 32 := by omega
  simp only [fromFrame, bne_self_eq_false, Bool.false_eq_true, if_false, getSliceRaw_eq,
    Nat.reducePow, Nat.reduceAdd, Nat.reduceSub, ofByteModel, h1, h2]

theorem byte_lt (i : Inst) (hv : i.Valid) : i.byte < 256 := by
  cases i <;> simp only [byte, Valid] at * <;> try omega
  all_goals
    rename_i n
    exact Nat.or_lt_two_pow (n := 8) (by decide) (by omega)

/-- an instance object as decoding produces it: numbers within 0..31 and a
`reserved` byte only for the bytes the standard reserves -/
def Canonical (i : Inst) : Prop :=
  i.Valid ∧ (∀ b, i = reserved b → instOfByte b = reserved b)

theorem ofByteModel_numbered : ∀ n : Fin 32,
    ofByteModel (number n.val).byte = number n.val ∧ ofByteModel (group n.val).byte = group n.val ∧
    ofByteModel (type n.val).byte = type n.val ∧
    ofByteModel (featNumber n.val).byte = featNumber n.val ∧
    ofByteModel (featGroup n.val).byte = featGroup n.val ∧
    ofByteModel (featType n.val).byte = featType n.val := by
  decide +kernel

theorem ofByteModel_byte (i : Inst) (hc : i.Canonical) : ofByteModel i.byte = i := by
  obtain ⟨hv, hr⟩ := hc
  cases i with
  | number n => exact (ofByteModel_numbered ⟨n, Nat.lt_succ_of_le hv⟩).1
  | group n => exact (ofByteModel_numbered ⟨n, Nat.lt_succ_of_le hv⟩).2.1
  | type n => exact (ofByteModel_numbered ⟨n, Nat.lt_succ_of_le hv⟩).2.2.1
  | featNumber n => exact (ofByteModel_numbered ⟨n, Nat.lt_succ_of_le hv⟩).2.2.2.1
  | featGroup n => exact (ofByteModel_numbered ⟨n, Nat.lt_succ_of_le hv⟩).2.2.2.2.1
  | featType n => exact (ofByteModel_numbered ⟨n, Nat.lt_succ_of_le hv⟩).2.2.2.2.2
  | featBroadcast => decide
  | broadcast => decide
  | featDevice => decide
  | device => decide
  | reserved b =>
    exact (ofByteModel_eq_spec ⟨b, Nat.lt_succ_of_le hv⟩).trans (hr b rfl)

theorem addToFrame_ok (i : Inst) (hb : i.byte < 256) (d : Nat) (hd : d < 2 ^ 24) :
    i.addToFrame ⟨24, d⟩ = .ok ⟨24, setSliceA d 15 8 i.byte⟩ := by
  have hb' : i.byte < 2 ^ (15 + 1 - 8) := by simpa using hb
  rw [← setSliceRaw_eqA 24 d 15 8 _ (by omega) (by omega) hd hb']
  exact setItem_slice_nat ⟨24, d⟩ 15 8 i.byte (by omega) (by simp) hb'

theorem byte_ofByteModel : ∀ B : Fin 256, (ofByteModel B.val).byte = B.val := by
  decide +kernel

end Inst
end DaliVerif
