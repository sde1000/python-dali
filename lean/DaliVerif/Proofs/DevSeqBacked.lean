import DaliVerif.Proofs.DevSeq
/-!
# C13 — discovery against any responder: what backs a recorded entry

An entry `((a, i), t)` is recorded only if, in this very exchange, the four queries it depends
on were answered with clean bytes (`BackedD`); silence or a framing error on any of them never
produces an entry.  The scan is followed through the whole exchange `T`: what is still to come
is a tail of `T`, and "every entry of the log is backed by `T`" holds from the empty log to the
last one.
-/
namespace DaliVerif.DevMem
open Prog

/-- an entry of the log is backed by an answer the bus really gave -/
def Backed (tr : List (Cmd × Resp)) (e : (Nat × Nat) × Nat) : Prop :=
  (Cmd.queryInstanceType e.1.1 e.1.2, Resp.byte e.2) ∈ tr

def BackedD (tr : List (Cmd × Resp)) (e : (Nat × Nat) × Nat) : Prop :=
  ((∃ en, (Cmd.queryInstanceEnabled e.1.1 e.1.2, Resp.byte en) ∈ tr) ∧
    (Cmd.queryInstanceType e.1.1 e.1.2, Resp.byte e.2) ∈ tr) ∧
  (∃ st, (Cmd.queryDeviceStatus e.1.1, Resp.byte st) ∈ tr ∧ ¬ (st / 4 % 2 = 1 ∨ st / 64 % 2 = 1)) ∧
  (∃ n, (Cmd.queryNumberOfInstances e.1.1, Resp.byte n) ∈ tr)

theorem BackedD.backed {tr : List (Cmd × Resp)} {e : (Nat × Nat) × Nat} (h : BackedD tr e) :
    Backed tr e := h.1.2

theorem out_send_tail {α : Type} {c : Cmd} {k : Resp → Prog α} {tr T : List (Cmd × Resp)}
    {out : PyRes α} (h : Out (.send c k) tr out) (hs : tr <:+ T) :
    ∃ r tr', (c, r) ∈ T ∧ tr' <:+ T ∧ Out (k r) tr' out := by
  obtain ⟨r, tr', rfl, hk⟩ := (out_send _ _ _ _).mp h
  exact ⟨r, tr', hs.subset List.mem_cons_self, (List.suffix_cons _ _).trans hs, hk⟩

/-- the loop over the instances of a device whose status and instance count `T` has: it hands a
log backed by `T` on to whatever follows (of which `C` holds) -/
theorem scanInstances_faults {T : List (Cmd × Resp)} {a : Nat} {out : PyRes TypeLog} {C : Prop}
    {k : TypeLog → Prog TypeLog}
    (hst : ∃ st, (Cmd.queryDeviceStatus a, Resp.byte st) ∈ T ∧ ¬ (st / 4 % 2 = 1 ∨ st / 64 % 2 = 1))
    (hn : ∃ n, (Cmd.queryNumberOfInstances a, Resp.byte n) ∈ T)
    (hk : ∀ log tr, tr <:+ T → (∀ e ∈ log, BackedD T e) → Out (k log) tr out →
      out = .error .ValueError ∨ C) :
    ∀ (n i : Nat) (log : TypeLog) (tr : List (Cmd × Resp)), tr <:+ T → (∀ e ∈ log, BackedD T e) →
      Out (scanInstances a n i log k) tr out → out = .error .ValueError ∨ C
  | 0, _, log, tr, hs, hlog, h => hk log tr hs hlog h
  | n + 1, i, log, tr, hs, hlog, h => by
    rw [scanInstances] at h
    split at h
    · exact .inl ((out_fail _ _ _).mp h).2
    · obtain ⟨r, tr', hen, hs', h⟩ := out_send_tail h hs
      cases r with
      | byte en =>
        obtain ⟨r, tr'', ht, hs'', h⟩ := out_send_tail h hs'
        cases r with
        | byte t =>
          refine scanInstances_faults hst hn hk n _ _ tr'' hs'' (fun e he => ?_) h
          rcases List.mem_append.mp he with he | he
          · exact hlog e he
          · rw [List.mem_singleton.mp he]
            exact ⟨⟨⟨en, hen⟩, ht⟩, hst, hn⟩
        | _ => exact scanInstances_faults hst hn hk n _ log tr'' hs'' hlog h
      | _ => exact scanInstances_faults hst hn hk n _ log tr' hs' hlog h

theorem scanDevices_faults {T : List (Cmd × Resp)} {out : PyRes TypeLog} :
    ∀ (addrs : List Nat) (log : TypeLog) (tr : List (Cmd × Resp)), tr <:+ T →
      (∀ e ∈ log, BackedD T e) → Out (scanDevices addrs log) tr out →
      out = .error .ValueError ∨
        ∃ log' tr0 r, out = .ok log' ∧ T = tr0 ++ [(.stopQuiescentMode, r)] ∧ ∀ e ∈ log', BackedD T e
  | [], log, tr, hs, hlog, h => by
    rw [scanDevices, out_send] at h
    obtain ⟨r, _, rfl, h⟩ := h
    obtain ⟨rfl, rfl⟩ := (out_done _ _ _).mp h
    obtain ⟨tr0, rfl⟩ := hs
    exact .inr ⟨log, tr0, r, rfl, rfl, hlog⟩
  | a :: rest, log, tr, hs, hlog, h => by
    rw [scanDevices] at h
    split at h
    · exact .inl ((out_fail _ _ _).mp h).2
    · obtain ⟨r, tr', hst, hs', h⟩ := out_send_tail h hs
      cases r with
      | byte st =>
        simp only at h
        split at h
        · exact scanDevices_faults rest log tr' hs' hlog h
        · rename_i healthy
          obtain ⟨r, tr'', hn, hs'', h⟩ := out_send_tail h hs'
          cases r with
          | byte n =>
            exact scanInstances_faults ⟨st, hst, healthy⟩ ⟨n, hn⟩ (scanDevices_faults rest) n 0 log
              tr'' hs'' hlog h
          | _ => exact scanDevices_faults rest log tr'' hs'' hlog h
      | _ => exact scanDevices_faults rest log tr' hs' hlog h

theorem autodiscover_faults (addrs : List Nat) (tr : List (Cmd × Resp)) (out : PyRes TypeLog)
    (h : Out (autodiscover addrs) tr out) :
    (∃ r tr', tr = (.startQuiescentMode, r) :: tr') ∧
    ((out = .error .ValueError) ∨
      (∃ log tr0 r, out = .ok log ∧ tr = tr0 ++ [(.stopQuiescentMode, r)] ∧
        ∀ e ∈ log, BackedD tr e)) := by
  rw [autodiscover, out_send] at h
  obtain ⟨r, tr', rfl, h⟩ := h
  exact ⟨⟨r, tr', rfl⟩,
    scanDevices_faults addrs [] tr' (List.suffix_cons _ _) (fun _ he => nomatch he) h⟩

end DaliVerif.DevMem
