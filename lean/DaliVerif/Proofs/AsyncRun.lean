import DaliVerif.Proofs.AsyncStep
/-!
# Every schedule preserves the invariant; what follows from it; the termination measure
-/
namespace DaliVerif.Async
open DaliVerif.Conn

theorem step?_deliver {s s' : St} {g : Nat} {m : Msg} (h : step? s (.deliver g m) = some s') :
    ∃ mail, s' = { s with mail := mail } := by
  simp only [step?] at h
  split at h <;> cases h
  · exact ⟨_, rfl⟩
  · exact ⟨s.mail, rfl⟩

theorem step?_env {s s' : St} {e : Conn.Ev} (h : step? s (.env e) = some s') :
    ∃ c', Conn.step s.conn e = some c' ∧
      ((e ≠ .lose ∧ s' = { s with conn := c' }) ∨ (e = .lose ∧ s' = shutdown { s with conn := c' })) := by
  simp only [step?] at h
  cases hc : Conn.step s.conn e with
  | none => simp [hc] at h
  | some c' =>
    simp only [hc] at h
    split at h <;> cases h
    · exact ⟨c', rfl, Or.inr ⟨‹_›, rfl⟩⟩
    · exact ⟨c', rfl, Or.inl ⟨‹_›, rfl⟩⟩

/-- No step changes the retry body of a task: what holds of the retry bodies of the callers that appear holds of
every task's. -/
theorem step?_retry {P : Option (List Step) → Prop} {s s' : St} {l : Label} (hl : ∀ tk, l = .spawn tk → P tk.retry)
    (hP : ∀ (t : Tid) (tk : Task), s.tasks[t]? = some tk → P tk.retry) (h : step? s l = some s') :
    ∀ (t : Tid) (tk : Task), s'.tasks[t]? = some tk → P tk.retry := by
  intro u tku hu
  -- task `t` keeps its retry body when its record is replaced
  have set : ∀ {t : Tid} {tk tk' : Task}, s.tasks[t]? = some tk → s'.tasks = s.tasks.set t tk' → tk'.retry = tk.retry →
      P tku.retry := fun ht hts hr => by
    rcases getElem?_set_cases (hts ▸ hu) with ⟨-, rfl⟩ | ⟨-, hu⟩
    · exact hr ▸ hP _ _ ht
    · exact hP u tku hu
  cases l with
  | spawn tk =>
    cases h
    rcases getElem?_concat hu with hu | ⟨-, rfl⟩
    · exact hP u tku hu
    · exact hl _ rfl
  | act t =>
    obtain ⟨tk, st, rest, hs⟩ := actStep_cases (show actStep s t = some s' from h)
    exact set hs.task hs.tasks rfl
  | raise t e =>
    obtain ⟨tk, st, rest, ht, -, -, ⟨rfl, -⟩ | ⟨_, -, -, -, rfl⟩⟩ :=
      raiseStep_cases (show raiseStep s t e = some s' from h) <;> exact set ht rfl rfl
  | deliver g m => obtain ⟨_, rfl⟩ := step?_deliver h; exact hP u tku hu
  | env e => obtain ⟨_, -, ⟨-, rfl⟩ | ⟨-, rfl⟩⟩ := step?_env h <;> exact hP u tku hu

theorem Inv.congr {s s' : St} (hI : Inv s) (ht : s'.tasks = s.tasks) (hl : s'.lock = s.lock)
    (hi : s'.inner = s.inner) (hs : s'.slots = s.slots) (hg : s'.log = s.log) : Inv s' :=
  ⟨fun u tku hu => TaskInv.transfer (res_congr hl hi hs u) (Or.inr (lastFrame_congr hl hg u))
      (hI.tasks u tku (ht ▸ hu)),
    fun u hu => (res_congr hl hi hs u).trans (hI.bound u (ht ▸ hu)), by rw [hg, hl]; exact hI.log,
    by rw [hg]; exact hI.wire⟩

/-- device loss empties the table of outstanding commands: every task holds at most what it held -/
theorem inv_shutdown {s : St} (c : Conn) (hI : Inv s) : Inv (shutdown { s with conn := c }) := by
  have hle : ∀ u, Res.le (res (shutdown { s with conn := c }) u) (res s u) := fun u => by
    simp [Res.le, res, shutdown, St.owners]
  refine ⟨fun u tku hu => ?_, fun u hu => ?_, hI.log, hI.wire⟩
  · have h := hI.tasks u tku hu
    exact ⟨wf_mono _ _ (hle u) h.wf, ok_mono (hle u) h.ok, h.edt, h.retry⟩
  · obtain ⟨h1, h2, -⟩ := res_eq.mp (hI.bound u hu)
    exact res_eq.mpr ⟨h1, h2, by simp [shutdown, St.owners]⟩

/-- the only obligation on a schedule: the callers that appear run well-formed programs -/
def Label.ok : Label → Prop
  | .spawn tk => tk.ok = true
  | _ => True

theorem step_inv {s s' : St} {l : Label} (hI : Inv s) (hl : l.ok) (h : step? s l = some s') : Inv s' := by
  cases l with
  | spawn tk =>
    cases h
    simp only [Label.ok, Task.ok, Bool.and_eq_true] at hl
    refine ⟨fun u tku hu => ?_, fun u hu => ?_, hI.log, hI.wire⟩
    · rcases getElem?_concat hu with hu | ⟨rfl, rfl⟩
      · exact TaskInv.transfer (s := s) rfl (Or.inr rfl) (hI.tasks u tku hu)
      · -- the new task holds nothing
        have hres : res { s with tasks := s.tasks ++ [tku] } s.tasks.length = ⟨false, false, false⟩ :=
          hI.bound _ (Nat.le_refl _)
        have hlf : lastFrame { s with tasks := s.tasks ++ [tku] } s.tasks.length = none :=
          lastFrame_none_of_lock fun hh => Nat.lt_irrefl _ (hI.holder_lt_length hh)
        refine ⟨hres ▸ hl.1.1.1, hres ▸ rfl, hlf ▸ hl.1.1.2, fun b hb => ?_⟩
        simpa [hb] using hl.2
    · exact hI.bound u (Nat.le_trans (by simp) hu)
  | act t => exact actStep_inv hI h
  | raise t e => exact raiseStep_inv hI h
  | deliver tag m =>
    obtain ⟨mail, rfl⟩ := step?_deliver h
    exact hI.congr rfl rfl rfl rfl rfl
  | env e =>
    obtain ⟨c', -, ⟨-, rfl⟩ | ⟨-, rfl⟩⟩ := step?_env h
    · exact hI.congr rfl rfl rfl rfl rfl
    · exact inv_shutdown c' hI

theorem run?_cons {s s' : St} {l : Label} {ls : List Label} :
    run? s (l :: ls) = some s' ↔ ∃ s1, step? s l = some s1 ∧ run? s1 ls = some s' := by
  simp only [run?]
  cases step? s l <;> simp

theorem run?_invariant {P : St → Prop} {ls : List Label}
    (hstep : ∀ l ∈ ls, ∀ s s', P s → step? s l = some s' → P s') {s s' : St} (h0 : P s)
    (h : run? s ls = some s') : P s' := by
  induction ls generalizing s with
  | nil => cases h; exact h0
  | cons l ls ih =>
    obtain ⟨s1, hs, hr⟩ := run?_cons.mp h
    exact ih (fun x hx => hstep x (List.mem_cons_of_mem _ hx)) (hstep l List.mem_cons_self s s1 h0 hs) hr

theorem run_inv {s s' : St} {ls : List Label} (hI : Inv s) (hl : ∀ l ∈ ls, l.ok) (h : run? s ls = some s') :
    Inv s' :=
  run?_invariant (fun l hm _ _ hI hs => step_inv hI (hl l hm) hs) hI h

/-- a driver's state before any caller: nothing held, nothing logged -/
def St.initial (s : St) : Prop :=
  s.tasks = [] ∧ s.lock = none ∧ s.inner = [] ∧ s.slots = [] ∧ s.log = []

theorem inv_initial {s : St} (h : s.initial) : Inv s := by
  obtain ⟨h1, h2, h3, h4, h5⟩ := h
  refine ⟨fun t tk ht => ?_, fun t _ => ?_, by rw [h5, h2]; rfl, by rw [h5]; rfl⟩
  · rw [h1] at ht; cases ht
  · simp [res, St.owners, h2, h3, h4]

theorem reachable_inv {s0 s : St} {ls : List Label} (h0 : s0.initial) (hl : ∀ l ∈ ls, l.ok)
    (h : run? s0 ls = some s) : Inv s := run_inv (inv_initial h0) hl h

theorem Inv.lock_of_inner {s : St} (hI : Inv s) {x : Tid} (h : x ∈ s.inner) : s.lock = some x := by
  have hok := hI.res_ok x
  simp only [Res.ok, res_inner.mpr h, Bool.not_true, Bool.false_or, Bool.and_eq_true] at hok
  exact res_lock.mp hok.2

theorem Inv.inner_of_owner {s : St} (hI : Inv s) {x : Tid} (h : x ∈ s.owners) : x ∈ s.inner := by
  have hok := hI.res_ok x
  simp only [Res.ok, res_slot.mpr h, Bool.not_true, Bool.false_or, Bool.and_eq_true] at hok
  exact res_inner.mp hok.1

/-- a task about to register a sequence number finds the table empty: an owner would be the lock holder, which
is this task, and it has no slot -/
theorem Inv.slots_empty {s : St} (hI : Inv s) {t : Tid} {tk : Task} {st : Step} {rest : List Step}
    (ht : s.tasks[t]? = some tk) (hp : tk.prog = st :: rest) (ha : st.act = .slot) : s.slots = [] := by
  obtain ⟨-, -, r', heff, -⟩ := wf_cons (hp ▸ (hI.tasks t tk ht).wf)
  obtain ⟨hin, hns, -⟩ := eff_slot (ha ▸ heff)
  have hlock := hI.lock_of_inner (res_inner.mp hin)
  cases hsl : s.slots with
  | nil => rfl
  | cons x l =>
    have hm : x.2 ∈ s.owners := by simp [St.owners, hsl]
    have hx : x.2 = t := by
      have := hI.lock_of_inner (hI.inner_of_owner hm)
      rw [hlock] at this; cases this; rfl
    rw [res_slot.mpr (hx ▸ hm)] at hns; cases hns

/-! ## C15 `progress`: the termination measure and the hypotheses on the environment

A caller action that completes normally consumes exactly one step of a finite program; deliveries and connection
events consume none. -/

def measure (s : St) : Nat := (s.tasks.map (fun tk => tk.prog.length)).sum

theorem act_measure {s s' : St} {t : Tid} (h : step? s (.act t) = some s') : measure s' + 1 = measure s := by
  obtain ⟨tk, st, rest, hs⟩ := actStep_cases (s := s) (t := t) h
  have := sum_map_set (fun tk : Task => tk.prog.length) hs.task hs.tasks
  simp only [hs.prog, List.length_cons] at this
  simp only [measure]
  omega

/-- no exception, no cancellation, no new caller -/
def Label.faultFree : Label → Bool
  | .act _ | .deliver _ _ | .env _ => true
  | _ => false

def nActs : List Label → Nat
  | [] => 0
  | .act _ :: ls => nActs ls + 1
  | _ :: ls => nActs ls

/-- in a fault-free schedule the number of caller actions is exactly the decrease of the measure:
no schedule can keep the callers busy for more than `measure s` actions -/
theorem run_measure {s s' : St} {ls : List Label} (hf : ∀ l ∈ ls, l.faultFree = true)
    (h : run? s ls = some s') : nActs ls + measure s' = measure s := by
  induction ls generalizing s with
  | nil => cases h; simp [nActs]
  | cons l ls ih =>
    obtain ⟨s1, hs, hr⟩ := run?_cons.mp h
    have h2 := ih (fun x hx => hf x (List.mem_cons_of_mem _ hx)) hr
    have hl := hf l List.mem_cons_self
    cases l with
    | act t => have := act_measure hs; simp only [nActs]; omega
    -- deliveries and connection events leave the task table alone
    | deliver g m => obtain ⟨_, rfl⟩ := step?_deliver hs; exact h2
    | env e => obtain ⟨_, -, ⟨-, rfl⟩ | ⟨-, rfl⟩⟩ := step?_env hs <;> exact h2
    | spawn _ => cases hl
    | raise _ _ => cases hl

theorem measure_zero_iff {s : St} :
    measure s = 0 ↔ ∀ (t : Tid) (tk : Task), s.tasks[t]? = some tk → tk.prog = [] := by
  simp only [measure, List.sum_eq_zero_iff_forall_eq_nat, List.mem_map, forall_exists_index, and_imp,
    forall_apply_eq_imp_iff₂, List.length_eq_zero_iff]
  exact ⟨fun h t tk ht => h tk (List.mem_of_getElem? ht), fun h tk hm => by
    obtain ⟨t, ht⟩ := List.getElem?_of_mem hm; exact h t tk ht⟩

/-- "the gateway answers every write": for every caller blocked in a wait for a gateway report
(echo, answer, confirmation), the report it waits for is the next one in its queue.  This is a
property of the environment (the gateway and the bus), not of the driver. -/
def GatewayAnswers (s : St) : Prop :=
  ∀ (t : Tid) (tk : Task) (st : Step) (rest : List Step) (m : Msg) (timed : Bool),
    s.tasks[t]? = some tk → tk.prog = st :: rest → st.act = .await m timed →
    ∃ mail', takeMail tk.tag (awaitSel tk.tag m) s.mail = some (m, mail')

def Quiescent (s : St) : Prop := ∀ t, step? s (.act t) = none

end DaliVerif.Async
