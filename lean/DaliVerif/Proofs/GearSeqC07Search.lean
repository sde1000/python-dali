import DaliVerif.Proofs.GearSeq
import DaliVerif.Spec.GearComm
/-!
# C07: the binary search `_find_next`

`FN.findNext R` is the search as a function of the list `R` of random addresses of the units that are ENABLED
(answers to COMPARE are counted); `FN.findNext_spec` is its specification.  `findNext_counting`: the generator model
`findNext` computes it against every environment that answers COMPARE by counting (`cstep R`).  The
specification bus, restricted to SEARCHADDR H/M/L + COMPARE, is such an environment (`bus_counts_sim`, carried
over whole runs by `run_sim`), hence `findNext_bus`.
-/
namespace DaliVerif.GearSeq
set_option linter.unusedSimpArgs false

namespace FN

abbrev Res := FNRes

/-- number of enabled units answering COMPARE for search address h -/
def cnt (R : List Nat) (h : Nat) : Nat := (R.filter (· ≤ h)).length

def findNext (R : List Nat) : Nat → Nat → Nat → Res
  | 0, _, _ => .none
  | fuel+1, low, high =>
    if low = high then
      (if cnt R high = 0 then .none else if 2 ≤ cnt R high then .clash else .found low)
    else if cnt R high = 0 then .none
    else
      match findNext R fuel low ((low + high) / 2) with
      | .none => findNext R fuel ((low + high) / 2 + 1) high
      | r => r

theorem cnt_eq_zero {R : List Nat} {h : Nat} : cnt R h = 0 ↔ ∀ r ∈ R, h < r := by
  unfold cnt
  rw [List.length_eq_zero_iff, List.filter_eq_nil_iff]
  constructor
  · intro H r hr; have := H r hr; simp at this; omega
  · intro H r hr; have := H r hr; simp; omega

theorem cnt_low {R : List Nat} {low : Nat} (hR : ∀ r ∈ R, low ≤ r) :
    cnt R low = R.count low := by
  unfold cnt
  rw [List.count_eq_length_filter]
  congr 1
  apply List.filter_congr
  intro r hr
  have := hR r hr
  by_cases h : r = low
  · subst h; simp
  · have h2 : ¬ r ≤ low := by omega
    simp [h, h2]

def Spec (R : List Nat) (high : Nat) : Res → Prop
  | .none => ∀ r ∈ R, high < r
  | .found m => m ∈ R ∧ m ≤ high ∧ (∀ r ∈ R, m ≤ r) ∧ R.count m = 1
  | .clash => ∃ m, m ∈ R ∧ m ≤ high ∧ (∀ r ∈ R, m ≤ r) ∧ 2 ≤ R.count m

/-- the search at a single address: COMPARE counts the copies of `low` -/
theorem spec_leaf {R : List Nat} {low : Nat} (hR : ∀ r ∈ R, low ≤ r) :
    Spec R low (if cnt R low = 0 then .none else if 2 ≤ cnt R low then .clash else .found low) := by
  by_cases h0 : cnt R low = 0
  · simp only [h0, if_true]; exact cnt_eq_zero.mp h0
  · simp only [h0, if_false]
    rw [cnt_low hR] at h0 ⊢
    have hm : low ∈ R := List.count_pos_iff.mp (by omega)
    by_cases h2 : 2 ≤ R.count low
    · simp only [h2, if_true]; exact ⟨low, hm, Nat.le_refl _, hR, h2⟩
    · simp only [h2, if_false]; exact ⟨hm, Nat.le_refl _, hR, by omega⟩

theorem findNext_spec (R : List Nat) : ∀ fuel low high, low ≤ high → high - low < 2 ^ fuel →
    (∀ r ∈ R, low ≤ r) → Spec R high (findNext R (fuel + 1) low high) := by
  intro fuel
  induction fuel with
  | zero =>
    intro low high hle hlt hR
    have e : low = high := by simp at hlt; omega
    subst e
    simp only [findNext, if_true]
    exact spec_leaf hR
  | succ n ih =>
    intro low high hle hlt hR
    rw [findNext]
    by_cases e : low = high
    · subst e
      simp only [if_true]
      exact spec_leaf hR
    · simp only [e, if_false]
      by_cases h0 : cnt R high = 0
      · simp only [h0, if_true]; exact cnt_eq_zero.mp h0
      · simp only [h0, if_false]
        have hpow : 2 ^ (n + 1) = 2 * 2 ^ n := by rw [Nat.pow_succ]; omega
        have left := ih low ((low + high) / 2) (by omega) (by omega) hR
        cases hl : findNext R (n + 1) low ((low + high) / 2) with
        | none =>
          rw [hl] at left
          exact ih _ high (by omega) (by omega) fun r hr => by have := left r hr; omega
        | clash =>
          rw [hl] at left
          obtain ⟨m, hm, hle', hmin, hc⟩ := left
          exact ⟨m, hm, by omega, hmin, hc⟩
        | found m =>
          rw [hl] at left
          obtain ⟨hm, hle', hmin, hc⟩ := left
          exact ⟨hm, by omega, hmin, hc⟩

end FN
/-- an environment that answers COMPARE by counting the enabled units whose random address is
at most the search address (state = the 24-bit search address) -/
def cstep (R : List Nat) (s : Nat) : Cmd → Resp × Nat
  | .searchH v => (.none, v * 65536 + s % 65536)
  | .searchM v => (.none, s / 65536 * 65536 + v * 256 + s % 256)
  | .searchL v => (.none, s / 256 * 256 + v)
  | .compare => (if FN.cnt R s = 0 then .none else if 2 ≤ FN.cnt R s then .err else .byte 255, s)
  | _ => (.none, s)

theorem searchBytes (high s : Nat) (h : high < 16777216) :
    ((((high >>> 16) &&& 0xff) * 65536 + s % 65536) / 65536 * 65536 + ((high >>> 8) &&& 0xff) * 256 +
        (((high >>> 16) &&& 0xff) * 65536 + s % 65536) % 256) / 256 * 256 + (high &&& 0xff) = high := by
  have e : (0xff : Nat) = 2 ^ 8 - 1 := by decide
  rw [e, Nat.and_two_pow_sub_one_eq_mod, Nat.and_two_pow_sub_one_eq_mod, Nat.and_two_pow_sub_one_eq_mod,
    Nat.shiftRight_eq_div_pow, Nat.shiftRight_eq_div_pow]
  omega

/-- the search at a single address: three SEARCHADDR frames and one COMPARE -/
theorem findNext_run_leaf (R : List Nat) (n low s : Nat) (hh : low < 16777216) :
    ((findNext (n + 1) low low).run (cstep R) s).res = .ret (FN.findNext R (n + 1) low low) ∧
    ((findNext (n + 1) low low).run (cstep R) s).trace.length ≤ 8 * n + 4 ∧
    (FN.findNext R (n + 1) low low = .none → ((findNext (n + 1) low low).run (cstep R) s).trace.length = 4) ∧
    (∀ m, FN.findNext R (n + 1) low low = .found m → ((findNext (n + 1) low low).run (cstep R) s).st = m) := by
  simp only [findNext, Prog.tell, Prog.run, cstep, searchBytes low s hh, FN.findNext, if_true]
  by_cases h0 : FN.cnt R low = 0
  · simp [h0, Prog.run, Resp.isYes]
  · by_cases h2 : 2 ≤ FN.cnt R low
    · simp [h0, h2, Prog.run, Resp.isYes, Resp.isErr]
    · simp [h0, h2, Prog.run, Resp.isYes, Resp.isErr]

/-- the model of `_find_next` against a counting environment: it returns what `FN.findNext` says, sends at most
`8·depth + 4` commands (exactly 4 when the answer is "none": that makes the bound add up over the two halves), and
when a unit is found leaves the search address at it (the last leaf visited) — which is what the following
PROGRAM SHORT ADDRESS / WITHDRAW act on -/
theorem findNext_counting (R : List Nat) : ∀ (n low high s : Nat), low ≤ high → high - low < 2 ^ n →
    high < 16777216 → (∀ r ∈ R, low ≤ r) →
    ((findNext (n + 1) low high).run (cstep R) s).res = .ret (FN.findNext R (n + 1) low high) ∧
    ((findNext (n + 1) low high).run (cstep R) s).trace.length ≤ 8 * n + 4 ∧
    (FN.findNext R (n + 1) low high = .none → ((findNext (n + 1) low high).run (cstep R) s).trace.length = 4) ∧
    (∀ m, FN.findNext R (n + 1) low high = .found m → ((findNext (n + 1) low high).run (cstep R) s).st = m) := by
  intro n
  induction n with
  | zero =>
    intro low high s hle hlt hh hR
    have e : low = high := by simp at hlt; omega
    subst e
    exact findNext_run_leaf R 0 low s hh
  | succ n ih =>
    intro low high s hle hlt hh hR
    by_cases e : low = high
    · subst e
      exact findNext_run_leaf R (n + 1) low s hh
    · have hpow : 2 ^ (n + 1) = 2 * 2 ^ n := by rw [Nat.pow_succ]; omega
      have hmid1 : low ≤ (low + high) / 2 := by omega
      have hmid2 : (low + high) / 2 - low < 2 ^ n := by omega
      have hmid3 : (low + high) / 2 + 1 ≤ high := by omega
      have hmid4 : high - ((low + high) / 2 + 1) < 2 ^ n := by omega
      rw [findNext, FN.findNext]
      simp only [Prog.tell, Prog.run, cstep, searchBytes high s hh, e, if_false]
      by_cases h0 : FN.cnt R high = 0
      · simp [h0, Prog.run, Resp.isYes]
      · have hyes : (if 2 ≤ FN.cnt R high then Resp.err else Resp.byte 255).isYes = true := by
          split <;> rfl
        simp only [h0, if_false, hyes, if_true]
        obtain ⟨l1, l2, l3, l4⟩ := ih low ((low + high) / 2) high hmid1 hmid2 (by omega) hR
        have lspec := FN.findNext_spec R n low ((low + high) / 2) hmid1 hmid2 hR
        rw [run_bind, l1]
        cases hl : FN.findNext R (n + 1) low ((low + high) / 2) with
        | none =>
          rw [hl] at lspec
          have hR' : ∀ r ∈ R, (low + high) / 2 + 1 ≤ r := fun r hr => by
            have := lspec r hr; omega
          obtain ⟨r1, r2, r3, r4⟩ := ih ((low + high) / 2 + 1) high
            ((findNext (n + 1) low ((low + high) / 2)).run (cstep R) high).st hmid3 hmid4 hh hR'
          have l3' := l3 hl
          simp only []
          refine ⟨r1, ?_, ?_, r4⟩
          · simp only [List.length_cons, List.length_append]; omega
          · intro hnone
            -- the right half cannot be empty: some enabled unit is ≤ high
            have rspec := FN.findNext_spec R n ((low + high) / 2 + 1) high hmid3 hmid4 hR'
            rw [hnone] at rspec
            exact absurd (FN.cnt_eq_zero.mpr rspec) h0
        | clash =>
          simp only [Prog.run]
          refine ⟨trivial, ?_, ?_, ?_⟩
          · simp only [List.length_cons, List.length_append, List.length_nil]; omega
          · intro h; cases h
          · intro m h; cases h
        | found m =>
          simp only [Prog.run]
          refine ⟨trivial, ?_, ?_, ?_⟩
          · simp only [List.length_cons, List.length_append, List.length_nil]; omega
          · intro h; cases h
          · intro m' h
            injection h with h
            subst h
            exact l4 m hl


inductive Only {α : Type} (C : Cmd → Prop) : Prog α → Prop
  | done (a : α) : Only C (.done a)
  | fail (e : PyErr) : Only C (.fail e)
  | spin : Only C .spin
  | send (c : Cmd) (k : Resp → Prog α) : C c → (∀ r, Only C (k r)) → Only C (.send c k)
  | note (n : Note) (k : Prog α) : Only C k → Only C (.note n k)

theorem Only.tell {α : Type} {C : Cmd → Prop} {c : Cmd} {k : Prog α} (hc : C c) (hk : Only C k) :
    Only C (Prog.tell c k) := Only.send c _ hc (fun _ => hk)

theorem Only.bind {α β : Type} {C : Cmd → Prop} {p : Prog α} {f : α → Prog β}
    (hp : Only C p) (hf : ∀ a, Only C (f a)) : Only C (p.bind f) := by
  induction hp with
  | done a => exact hf a
  | fail e => exact Only.fail e
  | spin => exact Only.spin
  | send c k hc hk ih => exact Only.send c _ hc ih
  | note n k hk ih => exact Only.note n _ ih

theorem Only.mono {α : Type} {C D : Cmd → Prop} {p : Prog α} (h : ∀ c, C c → D c)
    (hp : Only C p) : Only D p := by
  induction hp with
  | done a => exact Only.done a
  | fail e => exact Only.fail e
  | spin => exact Only.spin
  | send c k hc hk ih => exact Only.send c _ (h c hc) ih
  | note n k hk ih => exact Only.note n _ ih

theorem Only.trace {σ α : Type} {C : Cmd → Prop} {p : Prog α} (hp : Only C p)
    (step : σ → Cmd → Resp × σ) (s : σ) : ∀ c ∈ (p.run step s).trace, C c := by
  induction hp generalizing s with
  | done a => simp [Prog.run]
  | fail e => simp [Prog.run]
  | spin => simp [Prog.run]
  | send c k hc hk ih =>
    intro d hd
    simp only [Prog.run, List.mem_cons] at hd
    rcases hd with rfl | hd
    · exact hc
    · exact ih _ _ d hd
  | note n k hk ih => simpa [Prog.run] using ih s

/-- two environments related by a simulation on the commands a program sends give the same run -/
theorem run_sim {σ τ α : Type} (C : Cmd → Prop) (Sim : σ → τ → Prop)
    (st1 : σ → Cmd → Resp × σ) (st2 : τ → Cmd → Resp × τ)
    (h : ∀ s t c, C c → Sim s t → (st1 s c).1 = (st2 t c).1 ∧ Sim (st1 s c).2 (st2 t c).2)
    (p : Prog α) (hp : Only C p) : ∀ s t, Sim s t →
    (p.run st1 s).res = (p.run st2 t).res ∧ (p.run st1 s).trace = (p.run st2 t).trace ∧
      Sim (p.run st1 s).st (p.run st2 t).st := by
  induction hp with
  | done a => intro s t hs; exact ⟨rfl, rfl, hs⟩
  | fail e => intro s t hs; exact ⟨rfl, rfl, hs⟩
  | spin => intro s t hs; exact ⟨rfl, rfl, hs⟩
  | send c k hc hk ih =>
    intro s t hs
    obtain ⟨h1, h2⟩ := h s t c hc hs
    simp only [Prog.run]
    rw [h1]
    obtain ⟨a, b, c'⟩ := ih (st2 t c).1 _ _ h2
    exact ⟨a, by rw [b], c'⟩
  | note n k hk ih => intro s t hs; simpa [Prog.run] using ih s t hs

def IsSearch : Cmd → Prop
  | .searchH _ | .searchM _ | .searchL _ | .compare => True
  | _ => False

theorem findNext_only : ∀ (fuel low high : Nat), Only IsSearch (findNext fuel low high) := by
  intro fuel
  induction fuel with
  | zero => intro low high; exact Only.spin
  | succ n ih =>
    intro low high
    rw [findNext]
    refine Only.tell trivial (Only.tell trivial (Only.tell trivial (Only.send _ _ trivial ?_)))
    intro r
    split
    · split
      · split <;> exact Only.done _
      · exact Only.done _
    · split
      · refine Only.bind (ih _ _) ?_
        intro res
        split
        · exact ih _ _
        · exact Only.done _
      · exact Only.done _


/-- random addresses of the units that are ENABLED (they answer COMPARE) -/
def enR (b : Bus) : List Nat := b.filterMap (fun u => if u.init = .enabled then some u.random else none)

def Synced (b : Bus) (s : Nat) : Prop := ∀ u ∈ b, u.init ≠ .disabled → u.search = s

def BusSim (R : List Nat) (b : Bus) (s : Nat) : Prop := Synced b s ∧ enR b = R

theorem combine_255 (l : List Nat) (h : ∀ x ∈ l, x = 255) :
    combine l = if l.length = 0 then .none else if 2 ≤ l.length then .err else .byte 255 := by
  match l, h with
  | [], _ => rfl
  | [x], h => simp [combine, h x (by simp)]
  | x :: y :: l, _ => simp [combine]

theorem compare_answers (b : Bus) : ∀ x ∈ b.filterMap (fun u => (u.step .compare).1), x = 255 := by
  intro x hx
  simp only [List.mem_filterMap, Gear.step] at hx
  obtain ⟨u, _, hu⟩ := hx
  split at hu <;> simp at hu
  exact hu.symm

theorem compare_len (b : Bus) (s : Nat) (h : Synced b s) :
    (b.filterMap (fun u => (u.step .compare).1)).length = FN.cnt (enR b) s := by
  induction b with
  | nil => rfl
  | cons u b ih =>
    have ih' := ih (fun v hv => h v (List.mem_cons_of_mem _ hv))
    have hu := h u (List.mem_cons_self ..)
    unfold FN.cnt enR at *
    simp only [List.filterMap_cons, Gear.step] at ih' ⊢
    by_cases he : u.init = .enabled
    · have hs : u.search = s := hu (by rw [he]; decide)
      by_cases hr : u.random ≤ s
      · simp [he, hs, hr, List.filter_cons, ih']
      · simp [he, hs, hr, List.filter_cons, ih']
    · simp [he, ih']

theorem enR_map (b : Bus) (f : Gear → Gear) (h : ∀ u, (f u).init = u.init ∧ (f u).random = u.random) :
    enR (b.map f) = enR b :=
  filterMap_map_of_pres _ f (fun u => by simp only [(h u).1, (h u).2]) b

theorem Synced_map (b : Bus) (f : Gear → Gear) (s s' : Nat)
    (h : ∀ u, (u.init ≠ .disabled → u.search = s) → (f u).init ≠ .disabled → (f u).search = s')
    (hb : Synced b s) : Synced (b.map f) s' := by
  intro v hv
  simp only [List.mem_map] at hv
  obtain ⟨u, hu, rfl⟩ := hv
  exact h u (hb u hu)

theorem frame_silent (b : Bus) (c : Cmd) (h : ∀ u : Gear, (u.step c).1 = none) :
    (Bus.frame b c).1 = .none := by
  unfold Bus.frame
  have : b.filterMap (fun u => (u.step c).1) = [] := by
    rw [List.filterMap_eq_nil_iff]; intro u _; exact h u
  simp only [this, combine]

/-- a SEARCHADDR frame: nobody answers, every unit in initialisation mode rewrites its search address by `g` -/
theorem search_frame (R : List Nat) (b : Bus) (s : Nat) (c : Cmd) (g : Nat → Nat)
    (hc : ∀ u : Gear, u.step c = (none, if u.init = .disabled then u.tick else { u.tick with search := g u.search }))
    (hs : BusSim R b s) : (Bus.frame b c).1 = .none ∧ BusSim R (Bus.frame b c).2 (g s) := by
  obtain ⟨hsy, hR⟩ := hs
  refine ⟨frame_silent _ _ (fun u => by rw [hc]), ?_, ?_⟩
  · refine Synced_map b _ s _ (fun u hu => ?_) hsy
    rw [hc]
    split
    · rename_i hd; simp [Gear.tick, hd]
    · rename_i hd; intro _; simp [Gear.tick, hu hd]
  · show enR (b.map _) = R
    rw [enR_map b _ (fun u => by rw [hc]; split <;> simp [Gear.tick]), hR]

/-- on the commands of the binary search the specification bus answers and moves exactly as the counting
environment `cstep R`, `R` the random addresses of its ENABLED units (`Props.C07.bus_counts`) -/
theorem bus_counts_sim (R : List Nat) (b : Bus) (s : Nat) (c : Cmd) (hc : IsSearch c) (hs : BusSim R b s) :
    (Bus.exec b c).1 = (cstep R s c).1 ∧ BusSim R (Bus.exec b c).2 (cstep R s c).2 := by
  have hdt : c.devicetype = 0 := by cases c <;> first | rfl | exact absurd hc (by simp [IsSearch])
  rw [exec_of_dt0 b c hdt]
  cases c with
  | compare =>
    obtain ⟨hsy, hR⟩ := hs
    constructor
    · show combine _ = _
      rw [combine_255 _ (compare_answers b), compare_len b s hsy, hR]
      simp only [cstep]
    · refine ⟨?_, ?_⟩
      · exact Synced_map b _ s s (fun u hu => by simpa [Gear.step, Gear.tick] using hu) hsy
      · show enR (b.map _) = R
        rw [enR_map b _ (fun u => by simp [Gear.step, Gear.tick]), hR]
  | searchH v =>
    exact search_frame R b s _ (fun x => v * 65536 + x % 65536) (fun u => by simp only [Gear.step]; split <;> rfl) hs
  | searchM v =>
    exact search_frame R b s _ (fun x => x / 65536 * 65536 + v * 256 + x % 256)
      (fun u => by simp only [Gear.step]; split <;> rfl) hs
  | searchL v =>
    exact search_frame R b s _ (fun x => x / 256 * 256 + v) (fun u => by simp only [Gear.step]; split <;> rfl) hs
  | _ => exact absurd hc (by simp [IsSearch])


/-! ## Any bus: the three SEARCHADDR frames overwrite the whole search address, so a run of `findNext` may be taken
to start from a bus whose units in initialisation mode agree on it (`resync`) -/

def resync (b : Bus) : Bus := b.map (fun u => if u.init = .disabled then u else { u with search := 0 })

theorem unit_search3 (u : Gear) (h m l : Nat) :
    ((((if u.init = .disabled then u else { u with search := 0 }).step (.searchH h)).2.step (.searchM m)).2.step
      (.searchL l)).2 = (((u.step (.searchH h)).2.step (.searchM m)).2.step (.searchL l)).2 := by
  by_cases hd : u.init = .disabled
  · simp [hd]
  · simp only [hd, if_false, Gear.step, Gear.tick]
    have e : ∀ s : Nat, ((h * 65536 + s % 65536) / 65536 * 65536 + m * 256 + (h * 65536 + s % 65536) % 256) / 256 * 256
        = h * 65536 + m * 256 := by intro s; omega
    simp only [e]

theorem bus_search3 (b : Bus) (h m l : Nat) :
    (Bus.exec (Bus.exec (Bus.exec (resync b) (.searchH h)).2 (.searchM m)).2 (.searchL l)).2 =
    (Bus.exec (Bus.exec (Bus.exec b (.searchH h)).2 (.searchM m)).2 (.searchL l)).2 := by
  simp only [Bus.exec_st, resync, List.map_map]
  apply List.map_congr_left
  intro u _
  simp only [Function.comp, Gear.execSt, Cmd.devicetype, if_true]
  exact unit_search3 u h m l

theorem Synced_resync (b : Bus) : Synced (resync b) 0 := by
  intro v hv
  simp only [resync, List.mem_map] at hv
  obtain ⟨u, _, rfl⟩ := hv
  split
  · rename_i hd; intro h; exact absurd hd h
  · intro _; rfl

theorem enR_resync (b : Bus) : enR (resync b) = enR b := by
  unfold resync
  apply enR_map
  intro u
  split <;> simp

/-- **findNext on the specification bus**: any bus of any size, any search addresses to start with -/
theorem findNext_bus (b : Bus) (n low high : Nat) (hle : low ≤ high) (hw : high - low < 2 ^ n)
    (hh : high < 16777216) (hR : ∀ r ∈ enR b, low ≤ r) :
    (runBus (findNext (n + 1) low high) b).res = .ret (FN.findNext (enR b) (n + 1) low high) ∧
    (runBus (findNext (n + 1) low high) b).trace.length ≤ 8 * n + 4 ∧
    (FN.findNext (enR b) (n + 1) low high = .none → (runBus (findNext (n + 1) low high) b).trace.length = 4) ∧
    (∀ m, FN.findNext (enR b) (n + 1) low high = .found m → Synced (runBus (findNext (n + 1) low high) b).st m) ∧
    enR (runBus (findNext (n + 1) low high) b).st = enR b := by
  have e : runBus (findNext (n + 1) low high) b = runBus (findNext (n + 1) low high) (resync b) := by
    rw [findNext]
    simp only [runBus, Prog.tell, Prog.run, bus_search3]
  rw [e]
  obtain ⟨h1, h2, h3, h4⟩ := run_sim IsSearch (BusSim (enR b)) Bus.exec (cstep (enR b)) (bus_counts_sim (enR b))
    _ (findNext_only (n + 1) low high) (resync b) 0 ⟨Synced_resync b, enR_resync b⟩
  obtain ⟨a1, a2, a3, a4⟩ := findNext_counting (enR b) n low high 0 hle hw hh hR
  unfold runBus
  rw [h1, h2]
  exact ⟨a1, a2, a3, fun m hm => a4 m hm ▸ h3, h4⟩

end DaliVerif.GearSeq
