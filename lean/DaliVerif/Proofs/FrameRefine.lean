import DaliVerif.Proofs.Bits
import DaliVerif.Spec.Bits
/-!
# `Spec.Bits.ofNat`, the list that `Frame.abs` unfolds to (for C05)

Each raw shift/mask operation of `Model/Frame.lean` on the number `n` is the position-wise operation of
`Spec/Bits.lean` on the list `ofNat w n` (read, slice, bit write, slice write, concatenation, membership), and
`ofNat w` is injective below `2 ^ w`.  `Props/C05.lean` `apply_refines` is a case analysis that ends in these.
-/
namespace DaliVerif
open Spec Spec.Bits

namespace Spec.Bits

@[simp] theorem ofNat_length (w n : Nat) : (ofNat w n).length = w := by simp [ofNat]

@[simp] theorem ofNat_getElem (w n i : Nat) (h : i < (ofNat w n).length) :
    (ofNat w n)[i] = n.testBit i := by simp [ofNat]

theorem ofNat_getD (w n i : Nat) (h : i < w) : (ofNat w n).getD i false = n.testBit i := by
  simp [List.getD_eq_getElem?_getD, ofNat, h]

theorem eq_ofNat {l : Bits} {w n : Nat} (hl : l.length = w)
    (h : ∀ i (hi : i < l.length), l[i] = n.testBit i) : l = ofNat w n :=
  List.ext_getElem (by simp [hl]) fun i h1 _ => by simp [h i h1]

theorem ofNat_succ (w n : Nat) : ofNat (w + 1) n = n.testBit 0 :: ofNat w (n / 2) :=
  (eq_ofNat (by simp) fun i _ => by cases i <;> simp [Nat.testBit_succ]).symm

theorem toNat_ofNat (w n : Nat) : toNat (ofNat w n) = n % 2 ^ w := by
  induction w generalizing n with
  | zero => simp [ofNat, toNat, Nat.mod_one]
  | succ k ih =>
    rw [ofNat_succ, toNat, ih, Nat.pow_succ, Nat.mul_comm (2 ^ k) 2, Nat.mod_mul]
    have : (if n.testBit 0 = true then 1 else 0) = n % 2 := by
      rw [Nat.testBit_zero]; rcases Nat.mod_two_eq_zero_or_one n with h | h <;> simp [h]
    omega

theorem ofNat_drop (w n lo : Nat) : (ofNat w n).drop lo = ofNat (w - lo) (n >>> lo) :=
  eq_ofNat (by simp) fun i _ => by simp [Nat.testBit_shiftRight]

theorem ofNat_take (w n k : Nat) (h : k ≤ w) : (ofNat w n).take k = ofNat k n :=
  eq_ofNat (by simp [h]) fun i _ => by simp

theorem toNat_slice (w n hi lo : Nat) (h : hi < w) :
    toNat (((ofNat w n).drop lo).take (hi + 1 - lo)) = Frame.getSliceRaw n hi lo := by
  rw [ofNat_drop, ofNat_take _ _ _ (by omega), toNat_ofNat, Frame.getSliceRaw_eq,
    Nat.shiftRight_eq_div_pow]

theorem ofNat_setBitRaw (w d k : Nat) (v : Bool) (hd : d < 2 ^ w) :
    ofNat w (Frame.setBitRaw w d k v) = (ofNat w d).set k v :=
  (eq_ofNat (by simp) fun i _ => by
    simp [Frame.testBit_setBitRaw _ _ _ _ _ hd, List.getElem_set, eq_comm]).symm

theorem ofNat_setSliceRaw (w d hi lo x : Nat) (hlo : lo ≤ hi) (hhi : hi < w) (hd : d < 2 ^ w)
    (hx : x < 2 ^ (hi + 1 - lo)) :
    ofNat w (Frame.setSliceRaw w d hi lo x) =
      (ofNat w d).mapIdx fun j old => if lo ≤ j ∧ j ≤ hi then x.testBit (j - lo) else old :=
  (eq_ofNat (by simp) fun i _ => by
    simp [Frame.testBit_setSliceRaw _ _ _ _ _ _ hlo hhi hd hx]).symm

theorem ofNat_inj {w a b : Nat} (ha : a < 2 ^ w) (hb : b < 2 ^ w) (h : ofNat w a = ofNat w b) :
    a = b := by
  have := congrArg toNat h
  rw [toNat_ofNat, toNat_ofNat, Nat.mod_eq_of_lt ha, Nat.mod_eq_of_lt hb] at this
  exact this

theorem ofNat_append (w1 w2 a b : Nat) (hb : b < 2 ^ w2) :
    ofNat w2 b ++ ofNat w1 a = ofNat (w1 + w2) (a <<< w2 ||| b) :=
  eq_ofNat (by simp; omega) fun i _ => by
    simp only [List.getElem_append, ofNat_length, ofNat_getElem, Nat.testBit_or,
      Nat.testBit_shiftLeft]
    by_cases h : i < w2
    · simp [h, Nat.not_le.mpr h]
    · simp [h, Nat.le_of_not_lt h, Frame.testBit_eq_false_of_lt hb (Nat.le_of_not_lt h)]

theorem mem_ofNat {w n : Nat} {b : Bool} : b ∈ ofNat w n ↔ ∃ i, i < w ∧ n.testBit i = b := by
  simp [ofNat]

theorem contains_true_ofNat (w n : Nat) (hn : n < 2 ^ w) :
    (ofNat w n).contains true = (n != 0) := by
  rw [Bool.eq_iff_iff]
  simp only [List.contains_eq_mem, decide_eq_true_eq, mem_ofNat, bne_iff_ne]
  constructor
  · rintro ⟨i, _, hi⟩ rfl; simp at hi
  · intro h
    obtain ⟨i, hi⟩ := Nat.exists_testBit_of_ne_zero h
    refine ⟨i, Decidable.byContradiction fun hc => ?_, hi⟩
    simp [Frame.testBit_eq_false_of_lt hn (Nat.le_of_not_lt hc)] at hi

theorem contains_false_ofNat (w n : Nat) (hn : n < 2 ^ w) :
    (ofNat w n).contains false = (n != 2 ^ w - 1) := by
  rw [Bool.eq_iff_iff]
  simp only [List.contains_eq_mem, decide_eq_true_eq, mem_ofNat, bne_iff_ne]
  constructor
  · rintro ⟨i, hiw, hi⟩ rfl; simp [Nat.testBit_two_pow_sub_one, hiw] at hi
  · -- if no bit below `w` is clear then `n = 2^w - 1`
    intro h
    apply Decidable.byContradiction; intro hno
    apply h; apply Nat.eq_of_testBit_eq; intro i
    rw [Nat.testBit_two_pow_sub_one]
    by_cases hi : i < w
    · simpa [hi] using fun hf => hno ⟨i, hi, hf⟩
    · simp [hi, Frame.testBit_eq_false_of_lt hn (Nat.le_of_not_lt hi)]

end Spec.Bits
end DaliVerif
