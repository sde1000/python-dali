import DaliVerif.Proofs.MemSeq
/-!
# C10 — `write_raw` against a unit that fails to advance DTR0 on some frames

Against `MemUnit.stepSched sched` (Spec/MemUnit.lean: DTR0 is not advanced on the frames
`sched` selects).  For a value with consecutive locations the only DTR0 load is the one before
the first byte, so once the unit lags behind the tracked DTR0 it lags until the final QUERY
CONTENT DTR0, which then differs: a normal return implies that the unit never lagged during
the data writes, hence that the memory holds exactly the bytes (`mainP_stall`).
-/
namespace DaliVerif.DevMem
open Prog

/-- what no frame ever changes about a unit (as far as the stall proof needs it) -/
def Keeps (u u' : MemUnit) : Prop := u'.dev = u.dev ∧ u'.bank.isLockCell = u.bank.isLockCell

theorem Keeps.trans {u u' u'' : MemUnit} (h1 : Keeps u u') (h2 : Keeps u' u'') : Keeps u u'' :=
  ⟨h2.1.trans h1.1, h2.2.trans h1.2⟩

/-- what a WRITE MEMORY LOCATION frame with value `v` (either form, stalled or not) can have
done to `u` if it answered `r.1` and left `r.2`: DTR0 moved by at most one, the lock byte is
not in `rw`, and a byte is answered only for `v` stored at DTR0 -/
def WriteFrame (u : MemUnit) (v : Nat) (r : Resp × MemUnit) : Prop :=
  Keeps u r.2 ∧ r.2.dtr0 ≤ u.dtr0 + 1 ∧
  (u.bank.isLockCell u.dtr0 = true → r.2.bank.rw = u.bank.rw) ∧
  ∀ b, r.1 = .byte b → b = v ∧ (u.bank.isLockCell u.dtr0 = false →
    r.2.bank.rw = fun x => if x = u.dtr0 then v else u.bank.rw x)

theorem MemUnit.writeCell_frame (u : MemUnit) (v : Nat) (reply : Bool) :
    WriteFrame u v (u.writeCell v reply) := by
  unfold MemUnit.writeCell
  split
  · split
    · refine ⟨⟨rfl, Bank.store_isLockCell ..⟩, u.incDtr0_le,
        fun h => by rw [Bank.store_lockCell _ _ _ h], fun b hb => ?_⟩
      cases reply
      · cases hb
      · cases hb; exact ⟨rfl, fun h => by rw [Bank.store_other _ _ _ h]⟩
    · exact ⟨⟨rfl, rfl⟩, u.incDtr0_le, fun _ => rfl, nofun⟩
  · exact ⟨⟨rfl, rfl⟩, Nat.le_succ _, fun _ => rfl, nofun⟩

/-- a stalled frame is a frame of the non-advancing twin, which has the same DTR0 and bank -/
theorem stepStall_write (u : MemUnit) (st : Bool) {dev : Bool} (h : u.dev = dev) (v : Nat) :
    WriteFrame u v (u.stepStall st (.writeMemoryLocation dev v)) := by
  subst h
  cases st <;> simp only [MemUnit.stepStall, MemUnit.step, MemUnit.exec, Bool.false_eq_true, if_false, if_true]
  · exact u.writeCell_frame v true
  · exact MemUnit.writeCell_frame { u with advance := false } v true

theorem stepStall_writeNR (u : MemUnit) (st : Bool) {dev : Bool} (h : u.dev = dev) (v : Nat) :
    WriteFrame u v (u.stepStall st (.writeMemoryLocationNoReply dev v)) := by
  subst h
  cases st <;> simp only [MemUnit.stepStall, MemUnit.step, MemUnit.exec, Bool.false_eq_true, if_false, if_true]
  · exact u.writeCell_frame v false
  · exact MemUnit.writeCell_frame { u with advance := false } v false

theorem stepStall_dtr0 (u : MemUnit) (st : Bool) (dev : Bool) (v : Nat) (h : u.dev = dev) :
    (u.stepStall st (.dtr0 dev v)).2 = { u with dtr0 := v, clock := u.clock + 1 } := by
  cases st <;> simp [MemUnit.stepStall, MemUnit.step, MemUnit.exec, h]

theorem stepStall_other (u : MemUnit) (st : Bool) (c : Cmd)
    (hc : (∃ d v, c = .dtr1 d v) ∨ (∃ d a, c = .enableWriteMemory d a) ∨ (∃ d a, c = .queryContentDTR0 d a)) :
    Keeps u (u.stepStall st c).2 ∧ (u.stepStall st c).2.dtr0 = u.dtr0 ∧
    (u.stepStall st c).2.bank.rw = u.bank.rw ∧
    (∀ b, (u.stepStall st c).1 = .byte b → b = u.dtr0) := by
  rcases hc with ⟨d, v, rfl⟩ | ⟨d, a, rfl⟩ | ⟨d, a, rfl⟩ <;> cases st <;>
    simp only [MemUnit.stepStall, MemUnit.step, MemUnit.exec, if_true, Bool.false_eq_true, if_false] <;>
    split <;> exact ⟨⟨rfl, rfl⟩, rfl, rfl, fun b hb => by cases hb <;> rfl⟩

theorem run_loadDtr0_stall (sched : Nat → Bool) (u : MemUnit) (i : Nat) {dev : Bool} (hdev : u.dev = dev)
    (d : Option Nat) (l : Nat) {α : Type} (p : Prog α) :
    (loadDtr0 dev d l p).run (MemUnit.stepSched sched) (u, i) =
      p.run (MemUnit.stepSched sched)
        (if d = some l then (u, i) else ({ u with dtr0 := l, clock := u.clock + 1 }, i + 1)) := by
  unfold loadDtr0
  split
  · rfl
  · rw [run_send]
    simp only [MemUnit.stepSched, stepStall_dtr0 u (sched i) dev l hdev]

def Contig : Nat → List (Nat × Nat) → Prop
  | _, [] => True
  | l, p :: ps => p.1 = l ∧ Contig (l + 1) ps

/-- The write loop over consecutive locations against a unit that fails to advance
DTR0 on an arbitrary set of frames, entered with the unit's DTR0 at or below the
tracked value: if the loop completes and the unit's DTR0 is then the tracked value,
the unit was in step at entry and the memory holds exactly the bytes.  `u0` is the
unit before `write_raw` started: what `Keeps` speaks of is asked of `u0` only. -/
theorem writeLoop_stall (sched : Nat → Bool) {dev : Bool} {u0 : MemUnit} (hdev : u0.dev = dev) :
    ∀ (pairs : List (Nat × Nat)) (l : Nat) (u : MemUnit) (i : Nat) (d : Option Nat),
      Contig l pairs → l + pairs.length ≤ 255 → (∀ p ∈ pairs, u0.bank.isLockCell p.1 = false) →
      Keeps u0 u → (d = some l → u.dtr0 ≤ l) →
      ∀ d', ((writeLoop dev false pairs d).run (MemUnit.stepSched sched) (u, i)).1 = .ok d' →
        Keeps u0 ((writeLoop dev false pairs d).run (MemUnit.stepSched sched) (u, i)).2.1 ∧
        (d' = some ((writeLoop dev false pairs d).run (MemUnit.stepSched sched) (u, i)).2.1.dtr0 →
          (d = some l → u.dtr0 = l) ∧
          ((writeLoop dev false pairs d).run (MemUnit.stepSched sched) (u, i)).2.1.bank.rw =
            writeAll pairs u.bank.rw) := by
  intro pairs
  induction pairs with
  | nil =>
    intro l u i d _ _ _ hk _ d' h
    cases h
    exact ⟨hk, fun h => ⟨fun hl => Option.some.inj (h.symm.trans hl), rfl⟩⟩
  | cons p ps ih =>
    intro l u i d hc hlen hnl hk hd d' h
    obtain ⟨l', v⟩ := p
    obtain ⟨rfl, hc'⟩ := hc
    rw [List.forall_mem_cons] at hnl
    rw [List.length_cons] at hlen
    rw [writeLoop_cons, run_loadDtr0_stall sched u i (hk.1.trans hdev)] at h ⊢
    -- the unit `w` at the write: whether DTR0 was loaded or not, it is not above `l'`
    obtain ⟨w, j, hwj, hkw, hrww, hwl, hwu⟩ : ∃ w j,
        (if d = some l' then (u, i) else ({ u with dtr0 := l', clock := u.clock + 1 }, i + 1)) = (w, j) ∧
        Keeps u0 w ∧ w.bank.rw = u.bank.rw ∧ w.dtr0 ≤ l' ∧ (d = some l' → w.dtr0 = u.dtr0) := by
      split
      · exact ⟨_, _, rfl, hk, rfl, hd ‹_›, fun _ => rfl⟩
      · exact ⟨_, _, rfl, hk, rfl, Nat.le_refl l', fun h' => absurd h' ‹_›⟩
    obtain ⟨hkf, hd0, -, hecho⟩ := stepStall_write w (sched j) (hkw.1.trans hdev) v
    rw [hwj, run_send, Nat.min_eq_left (by omega : l' + 1 ≤ 255)] at h ⊢
    simp only [MemUnit.stepSched] at h ⊢
    generalize w.stepStall (sched j) (.writeMemoryLocation dev v) = res at *
    obtain ⟨r, w'⟩ := res
    simp only at hkf hd0 hecho
    cases r with
    | none => cases h
    | err => cases h
    | byte b =>
      obtain ⟨rfl, hrw⟩ := hecho b rfl
      simp only [ne_eq, not_true_eq_false, if_false] at h ⊢
      obtain ⟨h2, h4⟩ := ih (l' + 1) w' (j + 1) (some (l' + 1)) hc' (by omega) hnl.2
        (hkw.trans hkf) (fun _ => by omega) d' h
      refine ⟨h2, fun heq => ?_⟩
      obtain ⟨h5, h6⟩ := h4 heq
      have hw : w.dtr0 = l' := by have := h5 rfl; omega
      refine ⟨fun hdl => (hwu hdl).symm.trans hw, ?_⟩
      rw [h6, hrw (by rw [hw, hkw.2]; exact hnl.1), hw, hrww]
      rfl

theorem relockP_stall (sched : Nat → Bool) {dev : Bool} (unlock : Bool) {u0 u : MemUnit} (i : Nat)
    (hdev : u0.dev = dev) (hlock : unlock = true → u0.bank.isLockCell 2 = true) (hk : Keeps u0 u) :
    ((relockP dev unlock).run (MemUnit.stepSched sched) (u, i)).2.1.bank.rw = u.bank.rw := by
  cases unlock with
  | false => rfl
  | true =>
    simp only [relockP, if_true, run_send, run_done, MemUnit.stepSched,
      stepStall_dtr0 u (sched i) dev 2 (hk.1.trans hdev)]
    exact (stepStall_writeNR { u with dtr0 := 2, clock := u.clock + 1 } (sched (i + 1)) (hk.1.trans hdev) 0xFF).2.2.1
      ((congrFun hk.2 2).trans (hlock rfl))

theorem mainP_stall (sched : Nat → Bool) {dev : Bool} (a : Nat) (unlock : Bool) {pairs : List (Nat × Nat)}
    {l : Nat} {u0 : MemUnit} (u : MemUnit) (i : Nat) (d : Option Nat) (hdev : u0.dev = dev)
    (hlock : unlock = true → u0.bank.isLockCell 2 = true)
    (hc : Contig l pairs) (hlen : l + pairs.length ≤ 255)
    (hnl : ∀ q ∈ pairs, u0.bank.isLockCell q.1 = false) (hk : Keeps u0 u) (hd : d = some l → u.dtr0 ≤ l)
    (h : ((mainP dev a unlock pairs d).run (MemUnit.stepSched sched) (u, i)).1 = .ok ()) :
    ((mainP dev a unlock pairs d).run (MemUnit.stepSched sched) (u, i)).2.1.bank.rw = writeAll pairs u.bank.rw := by
  have key := writeLoop_stall sched hdev pairs l u i d hc hlen hnl hk hd
  rw [mainP, run_bind] at h ⊢
  generalize (writeLoop dev false pairs d).run (MemUnit.stepSched sched) (u, i) = res at *
  obtain ⟨o, u', i'⟩ := res
  cases o with
  | error e => cases h
  | ok d' =>
    obtain ⟨hk', hrw⟩ := key d' rfl
    -- QUERY CONTENT DTR0 answers the unit's DTR0; the run went on, so it is the tracked value
    obtain ⟨hkq, hdq, hrwq, hbq⟩ := stepStall_other u' (sched i') (.queryContentDTR0 dev a)
      (.inr (.inr ⟨dev, a, rfl⟩))
    simp only [run_send, MemUnit.stepSched] at h ⊢
    generalize u'.stepStall (sched i') (.queryContentDTR0 dev a) = resq at *
    obtain ⟨r, uq⟩ := resq
    cases r with
    | none => cases h
    | err => cases h
    | byte b =>
      cases hbq b rfl
      by_cases hne : some u'.dtr0 = d'
      · simp only [hne, ne_eq, not_true_eq_false, if_false] at h ⊢
        rw [relockP_stall sched unlock (i' + 1) hdev hlock (hk'.trans hkq), hrwq]
        exact (hrw hne.symm).2
      · simp only [ne_eq, hne, not_false_eq_true, if_true] at h
        cases h

theorem contig_zip_range' (raw : List Nat) : ∀ (l n : Nat), Contig l ((List.range' l n).zip raw) := by
  induction raw with
  | nil => intro l n; rw [List.zip_nil_right]; trivial
  | cons x xs ih =>
    intro l n
    cases n with
    | zero => trivial
    | succ n => exact ⟨rfl, ih (l + 1) n⟩

end DaliVerif.DevMem
