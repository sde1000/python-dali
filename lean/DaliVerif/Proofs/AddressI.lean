import DaliVerif.Model.AddressI
import DaliVerif.Proofs.Address
import DaliVerif.Proofs.FrameI
/-!
# The integer-level forms of `dali/address.py` equal the model / the standard's partition

Reading: `AddressI.fromFrame16` / `fromFrame24` / `instFromFrame24` on a natural number are `Spec.partition` /
`Spec.instOfByte` directly, the result given as the translator prints it — class name and number (`encAddr`,
`encInst`).  Writing: constructor + `add_to_frame` of every class are `Addr.mkNumbered` / `Addr.addToFrame`,
`Inst.mkNumbered` / `Inst.addToFrame` of `Model/Address.lean`, compared on the frame contents (`dataOf`).
-/
namespace DaliVerif.AddressI

/-- what a computation that yields a frame amounts to on integers: the contents of the frame, or the exception
class -/
def dataOf (r : PyRes Frame) : Except PyErr Int := r.map (fun f => (f.data : Int))

theorem bind_assoc' {α β γ} (x : Except PyErr α) (f : α → Except PyErr β) (g : β → Except PyErr γ) :
    (x.bind f).bind g = x.bind (fun a => (f a).bind g) := by
  cases x <;> rfl

theorem bind_ok {α} (x : Except PyErr α) : x.bind .ok = x := by
  cases x <;> rfl

theorem dataOf_bind {α} (x : Except PyErr α) (f : α → PyRes Frame) :
    dataOf (x.bind f) = x.bind (fun a => dataOf (f a)) := by
  cases x <;> rfl

end DaliVerif.AddressI

namespace DaliVerif.Tie.Command
open DaliVerif DaliVerif.AddressI

/-- `add`, a collaborator parameter of a translated constructor (on integer contents), behaves like `toFrame`, the
model's `add_to_frame` of some address or instance object, on frames of `bits` bits -/
def AddsLike (bits : Nat) (add : Int → Except PyErr Int) (toFrame : Frame → PyRes Frame) : Prop :=
  ∀ d : Nat, add d = dataOf (toFrame ⟨bits, d⟩)

theorem AddsLike.ok {bits} : AddsLike bits .ok .ok := fun _ => rfl

end DaliVerif.Tie.Command

namespace DaliVerif.AddressI
open DaliVerif DaliVerif.Frame DaliVerif.Spec DaliVerif.Tie.Command

def encAddr : Option Addr → String × Int
  | none => ("None", 0)
  | some .gearBroadcast => ("GearBroadcast", 0)
  | some .deviceBroadcast => ("DeviceBroadcast", 0)
  | some .gearUnaddressed => ("GearBroadcastUnaddressed", 0)
  | some .deviceUnaddressed => ("DeviceBroadcastUnaddressed", 0)
  | some (.gearGroup g) => ("GearGroup", g)
  | some (.deviceGroup g) => ("DeviceGroup", g)
  | some (.gearShort a) => ("GearShort", a)
  | some (.deviceShort a) => ("DeviceShort", a)

def encInst : Inst → String × Int
  | .number n => ("InstanceNumber", n)
  | .group n => ("InstanceGroup", n)
  | .type n => ("InstanceType", n)
  | .featNumber n => ("FeatureInstanceNumber", n)
  | .featGroup n => ("FeatureInstanceGroup", n)
  | .featType n => ("FeatureInstanceType", n)
  | .featBroadcast => ("FeatureInstanceBroadcast", 0)
  | .broadcast => ("InstanceBroadcast", 0)
  | .featDevice => ("FeatureDevice", 0)
  | .device => ("Device", 0)
  | .reserved b => ("ReservedInstance", b)

theorem sl_nat (n lo k : Nat) : sl (n : Int) lo (2 ^ k - 1) = ((n / 2 ^ lo % 2 ^ k : Nat) : Int) := by
  rw [sl, pyShr_ofNat, pyAnd_ofNat, Nat.and_two_pow_sub_one_eq_mod, Nat.shiftRight_eq_div_pow]

theorem pyAnd_lit_eq (n k : Nat) : (pyAnd (n : Int) ((2 ^ k : Nat) : Int) = 0) ↔ (n / 2 ^ k % 2 = 0) := by
  have h := bitTest_eq n k
  rw [getBitRaw, Nat.one_shiftLeft] at h
  rw [pyAnd_ofNat]
  grind

theorem ranged_ok {α} (v : Nat) (hi : Nat) (k : Except PyErr α) (h : v ≤ hi) :
    ranged (v : Int) hi k = k := by
  unfold ranged
  have h1 : ¬ ((v : Int) < 0) := by omega
  have h2 : ¬ ((v : Int) > hi) := by omega
  simp [h1, h2]

/-! Every slice `from_frame` reads is a part of one field of the frame (`B`: the 7-bit address field, the instance
byte); once that field is named, what is left compares a number below 128 (256) with the ranges of the
standard's partition. -/

theorem fromFrame16_spec (n : Nat) :
    AddressI.fromFrame16 n = .ok (encAddr (partition ⟨16, n⟩)) := by
  have hbit : pyAnd (n : Int) 32768 = 0 ↔ n / 32768 % 2 = 0 := pyAnd_lit_eq n 15
  simp only [AddressI.fromFrame16, partition, gearPartition, if_true, ne_eq, hbit,
    sl_nat n 9 7, sl_nat n 13 3, sl_nat n 9 4, sl_nat n 9 6, Nat.reducePow, Nat.reduceMul,
    field_hi n 512 16 8, field_lo n 512 16 8, field_hi n 512 64 2, field_lo n 512 64 2]
  have hB : n / 512 % 128 < 128 := Nat.mod_lt _ (by decide)
  generalize n / 512 % 128 = B at hB ⊢
  clear hbit
  unfold ranged
  grind [encAddr]

theorem fromFrame24_spec (n : Nat) :
    AddressI.fromFrame24 n = .ok (encAddr (partition ⟨24, n⟩)) := by
  have hcmd : pyAnd (n : Int) 65536 = 0 ↔ n / 65536 % 2 = 0 := pyAnd_lit_eq n 16
  have hbit : pyAnd (n : Int) 8388608 = 0 ↔ n / 8388608 % 2 = 0 := pyAnd_lit_eq n 23
  simp only [AddressI.fromFrame24, partition, devicePartition, hcmd, ne_eq, hbit,
    sl_nat n 17 7, sl_nat n 22 2, sl_nat n 17 5, sl_nat n 17 6, Nat.reducePow, Nat.reduceMul,
    field_hi n 131072 32 4, field_lo n 131072 32 4, field_hi n 131072 64 2, field_lo n 131072 64 2]
  have hB : n / 131072 % 128 < 128 := Nat.mod_lt _ (by decide)
  have hc : n / 65536 % 2 < 2 := Nat.mod_lt _ (by decide)
  generalize n / 131072 % 128 = B at hB ⊢
  generalize n / 65536 % 2 = c at hc ⊢
  clear hcmd hbit
  unfold ranged
  grind (splits := 40) [encAddr]

theorem instFromFrame24_spec (n : Nat) :
    AddressI.instFromFrame24 n = .ok (encInst (instOfByte (n / 256 % 256))) := by
  simp only [AddressI.instFromFrame24, sl_nat n 13 3, sl_nat n 8 5, sl_nat n 8 8, Nat.reducePow,
    Nat.reduceMul, field_hi n 256 32 8, field_lo n 256 32 8]
  have hB : n / 256 % 256 < 256 := Nat.mod_lt _ (by decide)
  generalize n / 256 % 256 = B at hB ⊢
  unfold ranged instOfByte
  grind (splits := 60) [encInst]

/-- `Frame(bits, x)` and then `g`, on integers: the constructor's sign and width checks, then `add` -/
theorem new_then (bits x : Nat) (hb : 1 ≤ bits) {add g} (hadd : AddsLike bits add g) :
    (if (x : Int) < 0 then .error .ValueError
     else if (bitLength (x : Int) : Int) > bits then .error .ValueError
     else add x) = dataOf ((Frame.new (.int bits) (.int x)).bind g) := by
  rw [FrameI.init_model, FrameI.init, if_neg (by omega : ¬ (bits : Int) < 1), hadd x]
  split
  · rfl
  · split
    · rfl
    · simp [Except.map, Except.bind, FrameI.toFrame]

/-- after the model's address write the frame has the size it had, so what follows sees only the contents -/
theorem after_addToFrame (a : Addr) (d : Nat) {bits k K} (hk : AddsLike bits k K) :
    (match dataOf (a.addToFrame ⟨bits, d⟩) with
      | .error e => .error e
      | .ok d => k d) = dataOf ((a.addToFrame ⟨bits, d⟩).bind K) := by
  unfold Addr.addToFrame
  dsimp only
  by_cases h : (bits != a.frameSize) = true
  · rw [if_pos h]; rfl
  · rw [if_neg h]; exact hk _

theorem fits_ok {α} (v w : Nat) (k : Except PyErr α) (h : v < 2 ^ w) : fits (v : Int) w k = k := by
  have := (value_checks (v : Int) w).mpr ⟨Int.natCast_nonneg _, by exact_mod_cast h⟩
  unfold fits
  simp [this.1, this.2]

theorem put_ofNat (d keep v lo : Nat) :
    put (d : Int) keep (v : Int) lo = (((d &&& keep) ||| (v <<< lo) : Nat) : Int) := by
  unfold put; rw [pyAnd_ofNat, pyShl_ofNat, pyOr_ofNat]

theorem ranged_neg {α} (v : Int) (hi : Nat) (k : Except PyErr α) (h : v < 0 ∨ v > hi) :
    ranged v hi k = .error .ValueError := by
  unfold ranged; split
  · rfl
  · split
    · rfl
    · omega

/-- the constructors' range check against the model's (`Addr.mkNumbered`, `Inst.mkNumbered`, `intParam`,
`rangeCheck` all have this shape): outside `0..limit` both raise `ValueError`, inside the number is a natural
number `s` and what follows need only agree there -/
theorem ranged_bind {α β} (n : Int) (limit : Nat) (mk : Nat → α) (r : Except PyErr β) (K : α → Except PyErr β)
    (hr : ∀ s : Nat, n = s → s ≤ limit → r = K (mk s)) :
    ranged n limit r =
      (if n < 0 || n > limit then Except.error PyErr.ValueError else .ok (mk n.toNat)).bind K := by
  by_cases h : n < 0 ∨ n > limit
  · rw [ranged_neg _ _ _ h]
    simp [show n < 0 ∨ (limit : Int) < n from h, Except.bind]
  · obtain ⟨s, rfl⟩ : ∃ s : Nat, n = s := ⟨n.toNat, by omega⟩
    rw [ranged_ok _ _ _ (by omega), hr s rfl (by omega)]
    have h' : ¬ ((s : Int) < 0 ∨ limit < s) := by omega
    simp [h', Except.bind]

/-- the constructors of the numbered address classes share one shape: range check, value check, then the
write -/
theorem numbered_model (mk : Nat → Addr) (limit w : Nat) (hw : limit < 2 ^ w) (f : Frame)
    (n : Int) (r : Except PyErr Int) (hr : ∀ s : Nat, n = s → r = dataOf ((mk s).addToFrame f)) :
    ranged n limit (fits n w r) =
      (Addr.mkNumbered mk limit (.int n)).bind (fun a => dataOf (a.addToFrame f)) :=
  ranged_bind n limit mk _ _ fun s hs hle => by
    subst hs
    rw [fits_ok _ _ _ (by omega)]
    exact hr s rfl

theorem setSliceRaw_put (bits d hi lo v keep : Nat)
    (h : mask bits ^^^ (mask (hi + 1 - lo) <<< lo) = keep) :
    ((setSliceRaw bits d hi lo v : Nat) : Int) = put d keep v lo := by
  rw [put_ofNat, setSliceRaw, h]

theorem clearBitRaw_pyAnd (bits d k keep : Nat) (h : mask bits ^^^ (1 <<< k) = keep) :
    ((setBitRaw bits d k false : Nat) : Int) = pyAnd d keep := by
  simp [setBitRaw, h]

/-- the model's address write on a frame of the class's size, with the masks evaluated: what the translated
`add_to_frame` of each class computes -/
theorem write_eval (a : Addr) (d : Nat) : dataOf (a.addToFrame ⟨a.frameSize, d⟩) = .ok (match a with
    | .gearBroadcast => pyOr (pyAnd d 511) 65024
    | .gearUnaddressed => pyOr (pyAnd d 511) 64512
    | .gearGroup g => put (pyOr (pyAnd d 8191) 32768) 57855 g 9
    | .gearShort s => put (pyAnd d 32767) 33279 s 9
    | .deviceBroadcast => pyOr (pyAnd d 131071) 16646144
    | .deviceUnaddressed => pyOr (pyAnd d 131071) 16515072
    | .deviceGroup g => put (pyOr (pyAnd d 4194303) 8388608) 12713983 g 17
    | .deviceShort s => put (pyAnd d 8388607) 8519679 s 17) := by
  cases a <;> simp only [Addr.addToFrame, Addr.frameSize, Addr.isGear, if_true, Bool.false_eq_true,
    if_false, bne_self_eq_false, dataOf, Except.map]
  · rw [setSliceRaw_put 16 _ 15 9 _ 511 (by decide)]; rfl
  · rw [setSliceRaw_put 24 _ 23 17 _ 131071 (by decide)]; rfl
  · rw [setSliceRaw_put 16 _ 15 9 _ 511 (by decide)]; rfl
  · rw [setSliceRaw_put 24 _ 23 17 _ 131071 (by decide)]; rfl
  · rw [setSliceRaw_put 16 _ 12 9 _ 57855 (by decide), setSliceRaw_put 16 _ 15 13 _ 8191 (by decide)]; rfl
  · rw [setSliceRaw_put 24 _ 21 17 _ 12713983 (by decide), setSliceRaw_put 24 _ 23 22 _ 4194303 (by decide)]; rfl
  · rw [setSliceRaw_put 16 _ 14 9 _ 33279 (by decide), clearBitRaw_pyAnd 16 _ 15 32767 (by decide)]; rfl
  · rw [setSliceRaw_put 24 _ 22 17 _ 8519679 (by decide), clearBitRaw_pyAnd 24 _ 23 8388607 (by decide)]; rfl

theorem addGearShort_model (d : Nat) (n : Int) :
    AddressI.addGearShort d n =
      (Addr.mkGearShort (.int n)).bind (fun a => dataOf (a.addToFrame ⟨16, d⟩)) :=
  numbered_model _ 63 6 (by decide) _ n _ fun s hs => hs ▸ (write_eval (.gearShort s) d).symm

theorem addDeviceShort_model (d : Nat) (n : Int) :
    AddressI.addDeviceShort d n =
      (Addr.mkDeviceShort (.int n)).bind (fun a => dataOf (a.addToFrame ⟨24, d⟩)) :=
  numbered_model _ 63 6 (by decide) _ n _ fun s hs => hs ▸ (write_eval (.deviceShort s) d).symm

theorem addGearGroup_model (d : Nat) (n : Int) :
    AddressI.addGearGroup d n =
      (Addr.mkGearGroup (.int n)).bind (fun a => dataOf (a.addToFrame ⟨16, d⟩)) :=
  numbered_model _ 15 4 (by decide) _ n _ fun s hs => hs ▸ (write_eval (.gearGroup s) d).symm

theorem addDeviceGroup_model (d : Nat) (n : Int) :
    AddressI.addDeviceGroup d n =
      (Addr.mkDeviceGroup (.int n)).bind (fun a => dataOf (a.addToFrame ⟨24, d⟩)) :=
  numbered_model _ 31 5 (by decide) _ n _ fun s hs => hs ▸ (write_eval (.deviceGroup s) d).symm

theorem addGearBroadcast_model (d : Nat) :
    AddressI.addGearBroadcast d = dataOf (Addr.gearBroadcast.addToFrame ⟨16, d⟩) :=
  (write_eval .gearBroadcast d).symm

theorem addGearBroadcastUnaddressed_model (d : Nat) :
    AddressI.addGearBroadcastUnaddressed d = dataOf (Addr.gearUnaddressed.addToFrame ⟨16, d⟩) :=
  (write_eval .gearUnaddressed d).symm

theorem addDeviceBroadcast_model (d : Nat) :
    AddressI.addDeviceBroadcast d = dataOf (Addr.deviceBroadcast.addToFrame ⟨24, d⟩) :=
  (write_eval .deviceBroadcast d).symm

theorem addDeviceBroadcastUnaddressed_model (d : Nat) :
    AddressI.addDeviceBroadcastUnaddressed d = dataOf (Addr.deviceUnaddressed.addToFrame ⟨24, d⟩) :=
  (write_eval .deviceUnaddressed d).symm

/-- a slice write with literal bounds on a 24-bit frame, as the tracer folds it and as the model does it, before
any continuation: the value check, then `put` with the keep-mask evaluated (`hlit` is closed by `decide` for each
literal field) -/
theorem sliceWrite (hi lo w keep : Nat)
    (hlit : FrameI.sliceCheck 24 hi lo = none ∧ FrameI.hi hi lo = hi ∧ FrameI.lo hi lo = lo ∧
      (hi : Int) + 1 - lo = w ∧ pyXor (pyShl 1 24 - 1) (pyShl (pyShl 1 w - 1) lo) = keep)
    (v : Int) (d : Nat) {k K} (hk : AddsLike 24 k K) :
    fits v w (k (put d keep v lo)) =
      dataOf ((Frame.setItem ⟨24, d⟩ (.slice (.int hi) (.int lo) .none) (.int v)).bind K) := by
  obtain ⟨hc, hhi, hlo, hw, hkeep⟩ := hlit
  rw [FrameI.setSlice_model, show (((24 : Nat) : Int)) = (24 : Int) from rfl]
  unfold FrameI.setSlice fits put
  simp only [hc, hhi, hlo, hw, hkeep]
  split
  · rfl
  · split
    · rfl
    · obtain ⟨n, rfl⟩ : ∃ n : Nat, v = n := ⟨v.toNat, by omega⟩
      rw [← put, put_ofNat, hk _]
      simp [Except.map, Except.bind, FrameI.toFrame]

theorem inst_add_general (i : Inst) (d : Nat) :
    dataOf (i.addToFrame ⟨24, d⟩) = fits (i.byte : Int) 8 (.ok (put d 16711935 (i.byte : Int) 8)) := by
  rw [sliceWrite 15 8 8 16711935 (by decide) i.byte d AddsLike.ok, bind_ok]
  rfl

theorem addInst_model (mk : Nat → Inst) (flags : Nat) (hbyte : ∀ s, (mk s).byte = flags ||| s)
    (d : Nat) (n : Int) :
    AddressI.addInst flags d n =
      (Inst.mkNumbered mk (.int n)).bind (fun i => dataOf (i.addToFrame ⟨24, d⟩)) :=
  ranged_bind n 31 mk _ _ fun s hs _ => by
    rw [inst_add_general, hbyte, hs, pyOr_ofNat]

theorem addReserved_model (d b : Nat) :
    AddressI.addReservedInstance d b = dataOf ((Inst.reserved b).addToFrame ⟨24, d⟩) := by
  rw [inst_add_general]; rfl

theorem addPlain_model (i : Inst) (d : Nat) (hb : i.byte < 256) :
    AddressI.addPlain (i.byte <<< 8) d = dataOf (i.addToFrame ⟨24, d⟩) := by
  rw [inst_add_general, fits_ok _ _ _ (by simpa using hb), put_ofNat]
  unfold AddressI.addPlain
  rw [show (16711935 : Int) = ((16711935 : Nat) : Int) from rfl, pyAnd_ofNat, pyOr_ofNat]

end DaliVerif.AddressI
