import DaliVerif.Model.SerialRx
import DaliVerif.Spec.Deframe
/-!
The SCI receiver against `sciDeframe`, frame by frame (`sci_frame`, `sci_refines_aux`).  First what both receivers
share: the model's folds are the reference's checksum and big-endian value, and `nextDt` on a frame is `dtAfter`.
-/
namespace DaliVerif.Proofs.SerialRx
open DaliVerif SerialRx Spec.Deframe
open Gen.DriverConsts

theorem xorAll_eq_aux (l : List Nat) (a : Nat) : l.foldl Nat.xor a = a ^^^ xorSum l := by
  induction l generalizing a with
  | nil => simp [xorSum]
  | cons b l ih =>
    simp only [List.foldl_cons, xorSum, ih]
    show (a ^^^ b) ^^^ xorSum l = a ^^^ (b ^^^ xorSum l)
    exact Nat.xor_assoc a b (xorSum l)

theorem xorAll_eq (l : List Nat) : xorAll l = xorSum l := by
  unfold xorAll; rw [xorAll_eq_aux]; simp

theorem ofBytesBE_aux (l : List Nat) (a : Nat) :
    l.foldl (fun acc b => acc * 256 + b) a = a * 256 ^ l.length + beValue l := by
  induction l generalizing a with
  | nil => simp [beValue]
  | cons b l ih =>
    simp only [List.foldl_cons, ih, beValue, List.length_cons, Nat.pow_succ]
    rw [Nat.add_mul, Nat.mul_assoc, Nat.mul_comm 256 (256 ^ l.length)]
    omega

theorem ofBytesBE_eq (l : List Nat) : Frame.ofBytesBE l = beValue l := by
  unfold Frame.ofBytesBE; rw [ofBytesBE_aux]; simp

theorem dtAfter_two (a x : Nat) : dtAfter [a, x] = if a = 0xC1 then x else 0 := by
  by_cases h : a = 0xC1
  · subst h; simp [dtAfter]
  · simp only [h, if_false]
    unfold dtAfter
    split
    · rename_i heq; simp at heq; omega
    · rfl

theorem nextDt_two (a x : Nat) (hx : x < 256) : nextDt 16 (beValue [a, x]) = dtAfter [a, x] := by
  rw [dtAfter_two]
  simp only [nextDt, isEDT, beValue, List.length_cons, List.length_nil]
  have h1 : (a * 256 ^ (0 + 1) + (x * 256 ^ 0 + 0)) / 256 = a := by simp; omega
  have h2 : (a * 256 ^ (0 + 1) + (x * 256 ^ 0 + 0)) % 256 = x := by simp; omega
  simp only [h1, h2]
  by_cases h : a = 0xC1 <;> simp [h]

theorem nextDt_ne16 (bits data : Nat) (h : bits ≠ 16) : nextDt bits data = 0 := by
  simp [nextDt, isEDT, h]

theorem sci_byte_facts : ∀ st, st < 256 → (st &&& 15 = st % 16 ∧ (st &&& 240) >>> 4 = st / 16) := by
  decide +kernel

theorem sci_knownCode : ∀ c, c < 16 → Sci.knownCode c = decide (c ≤ 8) := by decide +kernel

theorem sci_knownError : ∀ c, c < 256 → Sci.knownError c = decide (1 ≤ c ∧ c ≤ 5) := by decide +kernel

def sciIdle (s : Sci.State) : Prop := s.phase = .waitStatus ∧ s.buf.length = 5

/-- what one complete five-byte frame does -/
def sciFrameOut (o : Oracle) (rxdt st hi mi lo chk : Nat) : Nat × List Item :=
  if xorSum [st, hi, mi, lo] = chk then sciFrameMeaning o rxdt st hi mi lo else (rxdt, [])

theorem sci_dispatch (o : Oracle) (rxdt st hi mi lo chk : Nat)
    (hst : st < 256) (hlo : lo < 256) :
    (if Sci.knownCode (st &&& sci_STATUS_CODE_MASK) then Sci.dispatch o rxdt [st, hi, mi, lo, chk] else (rxdt, []))
      = sciFrameMeaning o rxdt st hi mi lo := by
  obtain ⟨h1, h2⟩ := sci_byte_facts st hst
  have hc : st % 16 < 16 := Nat.mod_lt _ (by decide)
  have hke := sci_knownError lo hlo
  have hm := nextDt_two mi lo hlo
  simp only [sci_STATUS_CODE_MASK, h1, sci_knownCode _ hc, Sci.dispatch, sciFrameMeaning, List.getD_cons_zero,
    List.getD_cons_succ, Sci.systemMessage, h2, hke, Sci.daliFrame, ofBytesBE_eq, hm,
    sciCode_ERROR, sciCode_STATUS_OK, sciCode_STATUS_DALI_NO, sciCode_SEND_DALI_8, sciCode_SEND_DALI_16,
    sciCode_SEND_DALI2_24, List.drop, List.take, List.length_cons, List.length_nil]
  generalize st % 16 = code at hc ⊢
  have hcases : code = 0 ∨ code = 1 ∨ code = 2 ∨ code = 3 ∨ code = 4 ∨ code = 5 ∨
      code = 6 ∨ code = 7 ∨ code = 8 ∨ (9 ≤ code ∧ code < 16) := by omega
  rcases hcases with rfl | rfl | rfl | rfl | rfl | rfl | rfl | rfl | rfl | h
  -- for a concrete status code both sides compute; code 7 compares a `decide` with its proposition
  any_goals rfl
  · simp
  · obtain ⟨e0, e1, e2, e3, e7, e8, e⟩ :
        code ≠ 0 ∧ code ≠ 1 ∧ code ≠ 2 ∧ code ≠ 3 ∧ code ≠ 7 ∧ code ≠ 8 ∧ ¬ code ≤ 8 := by omega
    simp [*]

theorem sci_last_step (o : Oracle) (rxdt st hi mi lo chk x4 : Nat) (hst : st < 256) (hlo : lo < 256) :
    Sci.step o ⟨.waitChecksum, [st, hi, mi, lo, x4], rxdt⟩ chk =
      ⟨⟨.waitStatus, List.replicate 5 0, (sciFrameOut o rxdt st hi mi lo chk).1⟩,
       (sciFrameOut o rxdt st hi mi lo chk).2, none⟩ := by
  have hd := sci_dispatch o rxdt st hi mi lo chk hst hlo
  have hx : xorAll [st, hi, mi, lo] = xorSum [st, hi, mi, lo] := xorAll_eq _
  simp only [Sci.step, bufSet, List.length_cons, List.length_nil, List.set, sciFrameOut]
  by_cases hc : xorSum [st, hi, mi, lo] = chk
  · have hc' : xorAll [st, hi, mi, lo] = chk := hx ▸ hc
    by_cases hk : Sci.knownCode (st &&& sci_STATUS_CODE_MASK) = true
    · simp only [hk, if_true] at hd
      simp [hc, hc', hk, hd.symm, Sci.State.reset, sci_MAX_LEN]
    · simp only [hk] at hd
      simp [hc, hc', hk, hd.symm, Sci.State.reset, sci_MAX_LEN]
  · have hc' : ¬ xorAll [st, hi, mi, lo] = chk := hx ▸ hc
    simp [hc, hc', Sci.State.reset, sci_MAX_LEN]

theorem sci_frame (o : Oracle) (s : Sci.State) (hs : sciIdle s) (st hi mi lo chk : Nat)
    (hst : st < 256) (hlo : lo < 256) (rest : List Nat) :
    Sci.runChunk o s (st :: hi :: mi :: lo :: chk :: rest) =
      ⟨(Sci.runChunk o ⟨.waitStatus, List.replicate 5 0, (sciFrameOut o s.rxdt st hi mi lo chk).1⟩ rest).state,
       (sciFrameOut o s.rxdt st hi mi lo chk).2 ++
         (Sci.runChunk o ⟨.waitStatus, List.replicate 5 0, (sciFrameOut o s.rxdt st hi mi lo chk).1⟩ rest).items,
       (Sci.runChunk o ⟨.waitStatus, List.replicate 5 0, (sciFrameOut o s.rxdt st hi mi lo chk).1⟩ rest).err⟩ := by
  obtain ⟨ph, buf, rxdt⟩ := s
  obtain ⟨hp, hb⟩ := hs
  simp only at hp hb
  subst hp
  match buf, hb with
  | [x0, x1, x2, x3, x4], _ =>
    have h1 : Sci.step o ⟨.waitStatus, [x0, x1, x2, x3, x4], rxdt⟩ st = ⟨⟨.waitHi, [st, x1, x2, x3, x4], rxdt⟩, [], none⟩ := by
      simp [Sci.step, Sci.store, bufSet]
    have h2 : Sci.step o ⟨.waitHi, [st, x1, x2, x3, x4], rxdt⟩ hi = ⟨⟨.waitMi, [st, hi, x2, x3, x4], rxdt⟩, [], none⟩ := by
      simp [Sci.step, Sci.store, bufSet]
    have h3 : Sci.step o ⟨.waitMi, [st, hi, x2, x3, x4], rxdt⟩ mi = ⟨⟨.waitLo, [st, hi, mi, x3, x4], rxdt⟩, [], none⟩ := by
      simp [Sci.step, Sci.store, bufSet]
    have h4 : Sci.step o ⟨.waitLo, [st, hi, mi, x3, x4], rxdt⟩ lo = ⟨⟨.waitChecksum, [st, hi, mi, lo, x4], rxdt⟩, [], none⟩ := by
      simp [Sci.step, Sci.store, bufSet]
    have h5 := sci_last_step o rxdt st hi mi lo chk x4 hst hlo
    simp [Sci.runChunk, h1, h2, h3, h4, h5]

/-- a stream shorter than a frame delivers nothing and raises nothing; nor does the reference find a frame in it -/
theorem sci_short (o : Oracle) (s : Sci.State) (hs : sciIdle s) (bs : List Nat) (hl : bs.length < 5) :
    (Sci.runChunk o s bs).items = sciDeframe o s.rxdt bs ∧ (Sci.runChunk o s bs).err = none := by
  obtain ⟨ph, buf, rxdt⟩ := s
  obtain ⟨hp, hb⟩ := hs
  simp only at hp hb
  subst hp
  match buf, hb with
  | [x0, x1, x2, x3, x4], _ =>
    match bs, hl with
    | [], _ => simp [Sci.runChunk, sciDeframe]
    | [a], _ => simp [Sci.runChunk, Sci.step, Sci.store, bufSet, sciDeframe]
    | [a, b], _ => simp [Sci.runChunk, Sci.step, Sci.store, bufSet, sciDeframe]
    | [a, b, c], _ => simp [Sci.runChunk, Sci.step, Sci.store, bufSet, sciDeframe]
    | [a, b, c, d], _ => simp [Sci.runChunk, Sci.step, Sci.store, bufSet, sciDeframe]

theorem sci_refines_aux (o : Oracle) : ∀ (n : Nat) (bytes : List Nat) (s : Sci.State), bytes.length ≤ n → sciIdle s →
    (∀ b ∈ bytes, b < 256) →
    (Sci.runChunk o s bytes).items = sciDeframe o s.rxdt bytes ∧ (Sci.runChunk o s bytes).err = none := by
  intro n
  induction n with
  | zero =>
    intro bytes s hl hs _
    have : bytes = [] := List.eq_nil_of_length_eq_zero (by omega)
    subst this
    simp [Sci.runChunk, sciDeframe]
  | succ n ih =>
    intro bytes s hl hs hb
    match bytes, hl, hb with
    | st :: hi :: mi :: lo :: chk :: rest, hl, hb =>
      have hst : st < 256 := hb st (by simp)
      have hlo : lo < 256 := hb lo (by simp)
      rw [sci_frame o s hs st hi mi lo chk hst hlo rest]
      have hidle : sciIdle ⟨.waitStatus, List.replicate 5 0, (sciFrameOut o s.rxdt st hi mi lo chk).1⟩ := by
        simp [sciIdle]
      have := ih rest ⟨.waitStatus, List.replicate 5 0, (sciFrameOut o s.rxdt st hi mi lo chk).1⟩
        (by simp at hl; omega) hidle (fun b hb' => hb b (by simp [hb']))
      simp only [this.1, this.2, and_true]
      rw [sciDeframe]
      unfold sciFrameOut
      by_cases hc : xorSum [st, hi, mi, lo] = chk <;> simp [hc]
    | [], _, _ => exact sci_short o s hs _ (by simp)
    | [_], _, _ => exact sci_short o s hs _ (by simp)
    | [_, _], _, _ => exact sci_short o s hs _ (by simp)
    | [_, _, _], _, _ => exact sci_short o s hs _ (by simp)
    | [_, _, _, _], _, _ => exact sci_short o s hs _ (by simp)

theorem sci_step_ok (o : Oracle) (s : Sci.State) (b : Nat) (h : s.buf.length = 5) :
    (Sci.step o s b).err = none ∧ (Sci.step o s b).state.buf.length = 5 := by
  obtain ⟨ph, buf, rx⟩ := s
  simp only at h
  cases ph <;> simp [Sci.step, Sci.store, bufSet, h]
  split <;> (try split) <;> simp [Sci.State.reset, sci_MAX_LEN]

theorem sci_run_ok (o : Oracle) (bytes : List Nat) : ∀ (s : Sci.State), s.buf.length = 5 →
    (Sci.runChunk o s bytes).err = none ∧ (Sci.runChunk o s bytes).state.buf.length = 5 := by
  induction bytes with
  | nil => intro s h; exact ⟨rfl, h⟩
  | cons b bs ih =>
    intro s h
    obtain ⟨h1, h2⟩ := sci_step_ok o s b h
    simp only [Sci.runChunk, h1]
    exact ih _ h2

theorem sci_chunks_ok (o : Oracle) (chunks : List (List Nat)) : ∀ (s : Sci.State), s.buf.length = 5 →
    (Sci.runChunks o s chunks).2.2 = [] := by
  induction chunks with
  | nil => intro s _; rfl
  | cons c cs ih =>
    intro s h
    obtain ⟨h1, h2⟩ := sci_run_ok o c s h
    simp only [Sci.runChunks, h1, ih _ h2]
    rfl

theorem sci_runChunk_append (o : Oracle) (s : Sci.State) (a b : List Nat) :
    Sci.runChunk o s (a ++ b) =
      match (Sci.runChunk o s a).err with
      | some _ => Sci.runChunk o s a
      | none =>
        ⟨(Sci.runChunk o (Sci.runChunk o s a).state b).state,
         (Sci.runChunk o s a).items ++ (Sci.runChunk o (Sci.runChunk o s a).state b).items,
         (Sci.runChunk o (Sci.runChunk o s a).state b).err⟩ := by
  induction a generalizing s with
  | nil => simp [Sci.runChunk]
  | cons x xs ih =>
    simp only [Sci.runChunk, List.cons_append]
    cases he : (Sci.step o s x).err with
    | some e => rfl
    | none =>
      simp only [ih]
      split <;> simp [*]

theorem sci_runChunks_flatten (o : Oracle) (chunks : List (List Nat)) : ∀ (s : Sci.State),
    (Sci.runChunk o s chunks.flatten).err = none →
    Sci.runChunks o s chunks =
      ((Sci.runChunk o s chunks.flatten).state, (Sci.runChunk o s chunks.flatten).items, []) := by
  induction chunks with
  | nil => intro s _; simp [Sci.runChunks, Sci.runChunk]
  | cons c cs ih =>
    intro s h
    simp only [List.flatten_cons, sci_runChunk_append] at h ⊢
    cases hc : (Sci.runChunk o s c).err with
    | some e => simp [hc] at h
    | none =>
      simp only [hc] at h ⊢
      simp [Sci.runChunks, ih _ h, hc]

end DaliVerif.Proofs.SerialRx
