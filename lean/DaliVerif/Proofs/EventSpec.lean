import DaliVerif.Proofs.DecodeEvent
import DaliVerif.Spec.EventSpec
/-!
# C12 helper: decoded events against Table 3 and the part-3xx meanings
-/
set_option linter.unusedSimpArgs false
namespace DaliVerif.Cmd
open Frame Spec

theorem lookup_map {α β γ} [BEq α] (l : List (α × β)) (g : β → γ) (k : α) :
    lookup (l.map (fun e => (e.1, g e.2))) k = (lookup l k).map g := by
  unfold lookup
  induction l with
  | nil => rfl
  | cons x xs ih =>
    simp only [List.map_cons, List.find?_cons]
    cases h : x.1 == k <;> simp [h] at ih ⊢
    exact ih

/-- the event class chosen for a resolved instance type reports that type and
the meaning parts 301/303/304 give to the ten information bits -/
theorem eventOfType_obs (T : Tables) (hE : EventTablesOK T) (t : Int) (src : EventSrc) (data : Nat) :
    observe (eventOfType T t src data) = some (obsOfSrc (some t) (eventMeaning t data) src) := by
  obtain ⟨hI, hP⟩ := hE
  have hunk : ∀ mng, mng = EventMeaning.unknown data →
      observe (.unknownEvent t src data) = some (obsOfSrc (some t) mng src) := by
    intro mng h; rw [h]; rfl
  -- a type other than the three registered ones has no meaning for the information bits
  have hother : ¬ t = 1 → ¬ t = 3 → ¬ t = 4 → eventMeaning t data = .unknown data := by
    intro h1 h3 h4; simp [eventMeaning, h1, h3, h4]
  unfold eventOfType
  simp only []
  split
  · exact hunk _ (hother (by omega) (by omega) (by omega))
  · rename_i hneg
    have h0 : 0 ≤ t := by omega
    have hcast : ((t.toNat : Nat) : Int) = t := by omega
    have hk := lookup_map T.instanceTypes (fun e => e.kind) t.toNat
    rw [hI] at hk
    split
    · rename_i hl
      rw [hl] at hk
      simp only [instanceTypeKinds, lookup, List.find?_cons, Option.map_none] at hk
      exact hunk _ (hother (by rintro rfl; simp at hk) (by rintro rfl; simp at hk) (by rintro rfl; simp at hk))
    · rename_i et hl
      rw [hl] at hk
      simp only [Option.map_some] at hk
      have hcases := lookup_mem hk
      simp only [instanceTypeKinds, List.mem_cons, Prod.mk.injEq, List.mem_nil_iff, or_false] at hcases
      rcases hcases with ⟨ht, hkind⟩ | ⟨ht, hkind⟩ | ⟨ht, hkind⟩
      · obtain rfl : t = 1 := by omega
        simp only [hkind]
        have hp := lookup_map T.pushEvents (fun c => c.base) data
        rw [hP] at hp
        split
        · rename_i pc hlp
          rw [hlp] at hp
          simp only [Option.map_some, lookup] at hp
          simp only [observe, eventMeaning, if_true, Int.toNat_one]
          cases hf : pushbuttonNames.find? (fun e => e.1 == data) with
          | none => rw [hf] at hp; simp at hp
          | some e =>
            rw [hf] at hp; simp only [Option.map_some, Option.some.injEq] at hp
            simp only [hp]
            rfl
        · rename_i hlp
          rw [hlp] at hp
          simp only [Option.map_none, lookup] at hp
          apply hunk
          simp only [eventMeaning, if_true]
          cases hf : pushbuttonNames.find? (fun e => e.1 == data) with
          | none => rfl
          | some e => rw [hf] at hp; simp at hp
      · obtain rfl : t = 3 := by omega
        simp only [hkind]
        split
        · rename_i hocc
          apply hunk
          have : ¬ data < 16 := by
            intro h; simp [(occ_iff data).mpr h] at hocc
          simp [eventMeaning, this]
        · rename_i hocc
          have hx : data < 16 := (occ_iff data).mp (by simpa using hocc)
          obtain ⟨f0, f1, f2, f3⟩ := occ_flags data
          simp only [observe, eventMeaning, hx, if_true, f0, f1, f2, f3]
          simp
      · obtain rfl : t = 4 := by omega
        simp only [hkind]
        simp [observe, eventMeaning]

/-- C12, `_Event.from_frame` against Table 3: for every 24-bit frame and every map, what the decoded object
reports is what the specification derives from the frame (and `None` exactly for non-event frames) -/
theorem eventFromFrame_spec (T : Tables) (hE : EventTablesOK T) (d : Nat) (m : Option InstMap) :
    (eventFromFrame T ⟨24, d⟩ m).bind observe = expectedObs d m := by
  have hobs := eventOfType_obs T hE
  -- both sides select the scheme by the same conditions on the same bits
  rw [eventFromFrame_eq]
  simp only [expectedObs, eventFields]
  split
  · rfl
  split
  · simp only [Option.bind_some, hobs, obsOfSrc]
  split
  · cases m with
    | none => rfl
    | some mm =>
      cases hg : mm.getType (d / 131072 % 64) (d / 1024 % 32) with
      | none => simp only [Option.bind_some, hg]; rfl
      | some t => simp only [Option.bind_some, hg, hobs, obsOfSrc]
  split
  · simp only [Option.bind_some, hobs, obsOfSrc]
  split
  · simp only [Option.bind_some, hobs, obsOfSrc]
  split
  · simp only [Option.bind_some, hobs, obsOfSrc]
  · rfl

end DaliVerif.Cmd

namespace DaliVerif.Spec
open DaliVerif Cmd

theorem eventFields_digits (hi b15 lo info : Nat) (hhi : hi < 128) (hb : b15 < 2) (hlo : lo < 32)
    (hinfo : info < 1024) :
    eventFields (hi * 131072 + b15 * 32768 + lo * 1024 + info) =
      if hi / 64 = 0 ∧ b15 = 0 then some ⟨some (hi % 64), none, none, none, some lo, info⟩
      else if hi / 64 = 0 ∧ b15 = 1 then some ⟨some (hi % 64), some lo, none, none, none, info⟩
      else if hi / 32 % 2 = 0 ∧ b15 = 0 then some ⟨none, none, some (hi % 32), none, some lo, info⟩
      else if hi / 32 % 2 = 0 ∧ b15 = 1 then some ⟨none, some lo, none, none, some (hi % 32), info⟩
      else if hi / 32 % 2 = 1 ∧ b15 = 0 then some ⟨none, none, none, some (hi % 32), some lo, info⟩
      else none := by
  obtain ⟨h1, h2, h3, h4, h5, h6, h7, h8⟩ := table3_digits hhi hb hlo hinfo rfl
  simp only [eventFields, h1, h2, h3, h4, h5, h6, h7, h8, Nat.zero_ne_one, if_false]

theorem eventFields_srcBits (t : Nat) (src : EventSrc) (info : Nat) (hs : SrcOK src)
    (ht : srcHasType src = true → t ≤ 31) (hinfo : info < 1024) :
    eventFields (srcBits t src + info) = some (match src with
      | .device sa => ⟨some sa, none, none, none, some t, info⟩
      | .deviceInstance sa inum => ⟨some sa, some inum, none, none, none, info⟩
      | .deviceGroup g => ⟨none, none, some g, none, some t, info⟩
      | .inst inum => ⟨none, some inum, none, none, some t, info⟩
      | .instanceGroup g => ⟨none, none, none, some g, some t, info⟩) := by
  obtain ⟨hi, b15, lo, hhi, hb, hlo, e, hsel⟩ := srcBits_digits t src hs ht
  rw [e, eventFields_digits hi b15 lo info hhi hb hlo hinfo]
  cases src <;> simp only at hsel <;>
    simp only [hsel, Nat.one_ne_zero, Nat.zero_ne_one, false_and, and_false, and_self, if_true, if_false]

/-- Table 3 read back: the frame of an event carries exactly the event's source fields, its instance type
(unless the scheme is device/instance) and its information bits -/
theorem eventFields_eventFrame (sa inum dg ig : Option Nat) (itype info d : Nat)
    (h : eventFrame sa inum dg ig itype info = some d) :
    eventFields d = some ⟨sa, inum, dg, ig, if sa.isSome ∧ inum.isSome then none else some itype, info⟩ := by
  unfold eventFrame at h
  split at h
  · cases h
  rename_i hr
  -- the frame of each scheme is `srcBits itype src + info` for the scheme's source
  split at h <;> (try cases h) <;> split at h <;> cases h <;> rename_i hf
  · exact eventFields_srcBits itype (.device _) info (Nat.le_of_lt_succ hf) (fun _ => by omega) (by omega)
  · exact eventFields_srcBits itype (.deviceInstance _ _) info ⟨Nat.le_of_lt_succ hf.1, Nat.le_of_lt_succ hf.2⟩
      (fun h => nomatch h) (by omega)
  · exact eventFields_srcBits itype (.deviceGroup _) info (Nat.le_of_lt_succ hf) (fun _ => by omega) (by omega)
  · exact eventFields_srcBits itype (.inst _) info (Nat.le_of_lt_succ hf) (fun _ => by omega) (by omega)
  · exact eventFields_srcBits itype (.instanceGroup _) info (Nat.le_of_lt_succ hf) (fun _ => by omega) (by omega)

/-- two event frames, one of the device/instance scheme resolved through a map, one of the instance scheme
carrying the type itself, are observed alike.  (The frames are variables: Table 3 enters through `e₁`, `e₂`
only.) -/
theorem obs_via_map (d₁ d₂ sa inum info t : Nat) (m : InstMap)
    (e₁ : eventFields d₁ = some ⟨some sa, some inum, none, none, none, info⟩)
    (e₂ : eventFields d₂ = some ⟨none, some inum, none, none, some t, info⟩)
    (hm : m.getType sa inum = some (t : Int)) :
    (expectedObs d₁ (some m)).map (fun o => (o.instanceNumber, o.instanceType, o.meaning)) =
      (expectedObs d₂ none).map (fun o => (o.instanceNumber, o.instanceType, o.meaning)) := by
  simp only [expectedObs, e₁, e₂, hm, Option.map_some]

end DaliVerif.Spec
