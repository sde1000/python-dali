import DaliVerif.Proofs.AsyncRun
import DaliVerif.Model.CallerProgram
/-!
# The programs of `send` / `run_sequence` of the four drivers are well formed

For every command (any frame, device type, send-twice, query) and every
sequence (any list of items) `mkTask d call` passes the static check
`Task.ok`: every exit releases what is held, every device-type frame follows
its EnableDeviceType inside the same locked region.

The raw sends are checked step by step, with the caller's clean-up `out` a variable of which only
`cleanupOK loopHead out` is used; everything above them is put together with `Seg.append`.
-/
namespace DaliVerif.Async

/-- the clean-up `run_sequence` performs outside the sends: HID releases then closes, serial
closes inside `async with` -/
def outOf : Driver → List Act
  | .tridonic | .hasseb => [Act.rel, Act.close]
  | _ => [Act.close, Act.rel]

theorem cleanupOK_outOf (d : Driver) : cleanupOK loopHead (outOf d) = true := by cases d <;> rfl

theorem cleanupOK_cons (r : Res) (a : Act) (h : List Act) :
    cleanupOK r (a :: h) =
      (a.isCleanup && match a.eff r with | some r' => cleanupOK r' h | none => false) := by
  simp only [cleanupOK, List.all_cons, runActs]
  cases a.eff r <;> simp [Bool.and_assoc]

/-- both static checks of a program segment at once: `p` runs from the loop head (transaction lock held, nothing
else) back to it with every exit cleaned up, and after `prev`, the last frame written in the locked region, it
passes the device-type check and leaves `x` as the last frame -/
def Seg (hr : Bool) (prev : Option WFrame) (p : List Step) (x : Option WFrame) : Prop :=
  wfSeg hr loopHead p = some loopHead ∧ edtSeg prev p = some x

theorem Seg.append {hr : Bool} {prev x y : Option WFrame} {p q : List Step} (h1 : Seg hr prev p x)
    (h2 : Seg hr x q y) : Seg hr prev (p ++ q) y :=
  ⟨by rw [wfSeg_append, h1.1, Option.bind_some, h2.1], by rw [edtSeg_append, h1.2, Option.bind_some, h2.2]⟩

theorem edt_guard {f : WFrame} {prev : Option WFrame} (h : f.dt = 0 ∨ prev = some (edtFrame f.dt)) :
    (f.dt == 0 || prev == some (edtFrame f.dt)) = true := by
  rcases h with h | h <;> simp [h]

section
attribute [local simp] Seg wfSeg stepOK cleanupOK_cons retryOK runActs Act.eff Act.canRaise Act.canComm
  Act.isCleanup loopHead edtSeg

theorem tridonicRaw_seg (hr : Bool) (f : WFrame) {out : List Act} (ho : cleanupOK loopHead out = true)
    {prev : Option WFrame} (h : f.dt = 0 ∨ prev = some (edtFrame f.dt)) :
    Seg hr prev (tridonicRaw true f out) (some f) := by
  simp only [loopHead] at ho
  cases ht : f.twice <;> simp [tridonicRaw, ht, ho, edt_guard h]

/-- hasseb writes a send-twice frame twice itself; the repeat needs no second enable -/
theorem hassebRaw_seg (hr : Bool) (f : WFrame) (query : Bool) {out : List Act} (ho : cleanupOK loopHead out = true)
    {prev : Option WFrame} (h : f.dt = 0 ∨ prev = some (edtFrame f.dt)) :
    Seg hr prev (hassebRaw f query out) (some (if f.twice then { f with dt := 0 } else f)) := by
  simp only [loopHead] at ho
  cases ht : f.twice <;> cases query <;> simp [hassebRaw, ht, ho, edt_guard h]

theorem serialCommand_seg (d : Driver) (f : WFrame) {out : List Act} (ho : cleanupOK loopHead out = true)
    {prev : Option WFrame} (h : f.dt = 0 ∨ prev = some (edtFrame f.dt)) :
    Seg false prev (serialCommand d f out) (some f) := by
  simp only [loopHead] at ho
  unfold serialCommand
  split <;> simp [ho, edt_guard h]

theorem serialSendBody_seg (d : Driver) (c : Cmd) {out : List Act} (ho : cleanupOK loopHead out = true)
    {prev : Option WFrame} (h : c.frame.dt = 0 ∨ prev = some (edtFrame c.frame.dt)) :
    Seg false prev (serialSendBody d c out) (some c.frame) := by
  have h1 : Seg false prev [({ act := if d = .sci then .flush else .flush1 } : Step)] prev := by
    split <;> exact ⟨rfl, rfl⟩
  refine (h1.append (serialCommand_seg d _ ho h)).append ?_
  simp only [loopHead] at ho
  cases c.query <;> simp [ho]

theorem carries_edt (d : Driver) (dt : Nat) : d.carries (edtFrame dt) = true := by
  cases d <;> rfl

/-- Only the HID programs name a clean-up for a retry (`Step.hr`): the serial ones pass the check without a retry
loop only.  A refused send writes nothing; otherwise the command's own frame is the last one (hasseb: its repeat). -/
theorem rawSend_seg (hr : Bool) (d : Driver) (c : Cmd) {out : List Act} (ho : cleanupOK loopHead out = true)
    (hd : hr = false ∨ d = .tridonic ∨ d = .hasseb) {prev : Option WFrame}
    (h : c.frame.dt = 0 ∨ prev = some (edtFrame c.frame.dt)) :
    ∃ x, Seg hr prev (rawSend d c out) x ∧
      (d.carries c.frame = true → c.frame.twice = false → x = some c.frame) := by
  unfold rawSend
  split
  · rename_i hc
    simp only [loopHead] at ho
    exact ⟨prev, by simp [ho], fun h1 => by simp [h1] at hc⟩
  · have serial : hr = false → ∀ d', Seg hr prev ({ act := .connCheck, h := out } :: serialSendBody d' c out) (some c.frame) := by
      rintro rfl d'
      have := serialSendBody_seg d' c ho h
      simp only [loopHead] at ho
      simpa [ho] using this
    cases d with
    | tridonic => exact ⟨_, tridonicRaw_seg hr _ ho h, fun _ _ => rfl⟩
    | hasseb => exact ⟨_, hassebRaw_seg hr _ _ ho h, fun _ ht => by simp [ht]⟩
    | luba | sci => exact ⟨_, serial (by simpa using hd) _, fun _ _ => rfl⟩

theorem withEdt_seg (hr : Bool) (d : Driver) (c : Cmd) {out : List Act} (ho : cleanupOK loopHead out = true)
    (hd : hr = false ∨ d = .tridonic ∨ d = .hasseb) (prev : Option WFrame) :
    ∃ x, Seg hr prev (withEdt d c out) x := by
  unfold withEdt
  split
  · rename_i h
    obtain ⟨x, hx, -⟩ := rawSend_seg hr d c ho hd (Or.inl h)
    exact ⟨x, hx⟩
  · obtain ⟨y, hy, hlast⟩ := rawSend_seg hr d (edtCmd c.frame.dt) ho hd (prev := prev) (Or.inl rfl)
    obtain ⟨x, hx, -⟩ := rawSend_seg hr d c ho hd (Or.inr (hlast (carries_edt d _) rfl))
    exact ⟨x, hy.append hx⟩

theorem itemSteps_seg (d : Driver) {out : List Act} (ho : cleanupOK loopHead out = true) (it : Item)
    (prev : Option WFrame) : ∃ x, Seg false prev (itemSteps d out it) x := by
  cases it with
  | cmd c => exact withEdt_seg false d c ho (Or.inl rfl) prev
  | sleep => simp only [loopHead] at ho; exact ⟨prev, by simp [itemSteps, ho]⟩
  | progress => exact ⟨prev, rfl, rfl⟩

theorem seqBody_seg (d : Driver) {out : List Act} (ho : cleanupOK loopHead out = true) (items : List Item)
    (prev : Option WFrame) : ∃ x, Seg false prev (seqBody d out items) x := by
  have hres : ∀ prev, Seg false prev [({ act := .resume, h := out } : Step)] prev := by
    simp only [loopHead] at ho; simp [ho]
  induction items generalizing prev with
  | nil => exact ⟨prev, hres prev⟩
  | cons it l ih =>
    obtain ⟨x, hx⟩ := itemSteps_seg d ho it prev
    obtain ⟨y, hy⟩ := ih x
    exact ⟨y, (hres prev).append (hx.append hy)⟩
end

/-- the body of the HID send loop, which a retry starts again -/
theorem ok_body {hr : Bool} {p : List Step} {out : List Act} {x : Option WFrame} (hp : Seg hr none p x)
    (ho : cleanupOK loopHead out = true) (prev : Option WFrame) :
    wf hr loopHead (p ++ plain out) = true ∧ edtOK prev (p ++ plain out) = true := by
  refine ⟨?_, edtOK_mono _ _ ?_⟩
  · rw [wf, wfSeg_append, hp.1, Option.bind_some]
    exact wf_plain_of_cleanupOK hr _ _ ho
  · simp only [cleanupOK, Bool.and_eq_true] at ho
    rw [edtOK, edtSeg_append, hp.2]
    exact edtSeg_plain x out ho.1

theorem ok_locked {hr : Bool} {p : List Step} {out : List Act} {x : Option WFrame} (hp : Seg hr none p x)
    (ho : cleanupOK loopHead out = true) :
    wf hr ⟨false, false, false⟩ ({ act := .acq } :: (p ++ plain out)) = true ∧
      edtOK none ({ act := .acq } :: (p ++ plain out)) = true := by
  have h1 : ∀ q, wfSeg hr ⟨false, false, false⟩ (({ act := .acq } : Step) :: q) = wfSeg hr loopHead q := by
    intro q; cases hr <;> rfl
  have := ok_body hp ho none
  rwa [wf, h1]

theorem serialSend_ok (d : Driver) (c : Cmd) :
    wf false ⟨false, false, false⟩ (serialSend c d) = true ∧ edtOK none (serialSend c d) = true := by
  have hrel : cleanupOK loopHead [Act.rel] = true := rfl
  -- below `connCheck`, `acq`: the prefix (if any), the command, the release
  suffices h : ∃ p x, serialSend c d = { act := .connCheck } :: { act := .acq } :: (p ++ plain [Act.rel]) ∧
      Seg false none p x from by
    obtain ⟨p, x, hp, hs⟩ := h
    rw [hp]
    exact ok_locked hs hrel
  unfold serialSend
  split
  · rename_i h
    exact ⟨_, _, by simp [plain], serialSendBody_seg d c hrel (Or.inl h)⟩
  · have hpf : Seg false none (prefixFlush d) none := by unfold prefixFlush; split <;> exact ⟨rfl, rfl⟩
    exact ⟨_, _, by simp [plain],
      (hpf.append (serialCommand_seg d _ hrel (Or.inl rfl))).append (serialSendBody_seg d c hrel (Or.inr rfl))⟩

/-- `caller_programs_wf` -/
theorem mkTask_ok (d : Driver) (c : Call) : (mkTask d c).ok = true := by
  have hrel : cleanupOK loopHead [Act.rel] = true := rfl
  cases c with
  | send c exc =>
    by_cases hd : d = .tridonic ∨ d = .hasseb
    · -- HID: the body of the send loop is also what a retry starts again
      have hm : mkTask d (.send c exc) =
          { prog := { act := .acq } :: (withEdt d c [Act.rel] ++ plain [Act.rel])
            retry := if exc then none else some (withEdt d c [Act.rel] ++ plain [Act.rel]) } := by
        rcases hd with rfl | rfl <;> rfl
      have hs := fun hr => withEdt_seg hr d c hrel (Or.inr hd) none
      obtain ⟨_, h0⟩ := hs false
      obtain ⟨_, h1⟩ := hs true
      rw [hm]
      cases exc <;> simp [Task.ok, ok_locked h0 hrel, ok_locked h1 hrel, ok_body h1 hrel none]
    · have hm : mkTask d (.send c exc) = { prog := serialSend c d } := by
        cases d <;> first | rfl | simp at hd
      simp [hm, Task.ok, serialSend_ok d c]
  | seq items =>
    have hm : mkTask d (.seq items) =
        { prog := { act := .acq } :: (seqBody d (outOf d) items ++ plain (outOf d)) } := by cases d <;> rfl
    obtain ⟨_, hs⟩ := seqBody_seg d (cleanupOK_outOf d) items none
    simp [hm, Task.ok, ok_locked hs (cleanupOK_outOf d)]

end DaliVerif.Async
