import DaliVerif.Proofs.Construct
import DaliVerif.Proofs.FrameOps
/-!
# C02: whatever a command constructor accepts is a legal object (`WF`)

"Accepts": the argument handling `construct*` returns an object and, where the frame assembly can still raise
(a wrong-kind address), `encode` succeeds on it.  One `<family>_accepted_is_legal` per constructor family.
-/
set_option linter.unusedSimpArgs false
namespace DaliVerif.Cmd
open Frame Spec

theorem bind_ok {α β : Type} (x : PyRes α) (g : α → PyRes β) (r : β)
    (h : (x >>= g) = .ok r) : ∃ y, x = .ok y ∧ g y = .ok r := by
  cases x with
  | error e => simp [bind, Except.bind] at h
  | ok y => exact ⟨y, rfl, h⟩

/-- argument objects are validly constructed address / instance objects -/
def ArgOK : Arg → Prop
  | .addr a => a.Valid
  | .inst i => i.Valid
  | .val _ => True

theorem checkDestination_valid (d : Arg) (hd : ArgOK d) (a : Addr)
    (h : checkDestination d = .ok (.inl a)) : a.Valid := by
  cases d with
  | addr a' => simp only [checkDestination] at h; injection h with h; injection h with h; subst h; exact hd
  | inst i => simp [checkDestination] at h
  | val v =>
    simp only [checkDestination] at h
    cases hv : v.asInt? with
    | none => simp [hv] at h
    | some i =>
      simp only [hv, Addr.mkGearShort, Addr.mkNumbered] at h
      split at h
      · simp [Except.map] at h
      · rename_i hr
        simp only [Except.map] at h
        injection h with h; injection h with h; subst h
        simp only [Addr.Valid]
        simp only [Bool.or_eq_true, decide_eq_true_eq, not_or] at hr
        omega

/-- the destination step the addressed constructors share: the object is built around a valid address -/
theorem destination_ok (dest : Arg) (hd : ArgOK dest) (mk : Addr → Cmd) (e : PyErr) (cmd : Cmd)
    (h : (checkDestination dest >>= fun r => match r with
        | .inl a => (pure (mk a) : PyRes Cmd)
        | .inr _ => .error e) = .ok cmd) :
    ∃ a, a.Valid ∧ cmd = mk a := by
  obtain ⟨r, hr, h⟩ := bind_ok _ _ _ h
  cases r with
  | inr i => cases h
  | inl a => cases h; exact ⟨a, checkDestination_valid dest hd a hr, rfl⟩

theorem intParam_le (v : Arg) (limit p : Nat) (h : intParam v limit = .ok p) : p ≤ limit := by
  unfold intParam at h
  cases v with
  | val v =>
    simp only at h
    cases hv : v.asInt? with
    | none => simp [hv] at h
    | some i =>
      simp only [hv] at h
      split at h
      · contradiction
      · rename_i hr
        injection h with h
        simp only [Bool.or_eq_true, decide_eq_true_eq, not_or] at hr
        omega
  | addr _ => simp at h
  | inst _ => simp at h

theorem intParam_rejected (v : PyVal) (limit : Nat)
    (hbad : match v.asInt? with | some i => i < 0 ∨ i > limit | none => True) :
    intParam (.val v) limit = .error .ValueError := by
  unfold intParam
  cases hv : v.asInt? with
  | none => simp only [hv]
  | some i =>
    simp only [hv] at hbad ⊢
    rw [if_pos (by simpa using hbad)]

theorem frameNew_bits (n : Nat) (d : PyVal) (f : Frame) (h : Frame.new (natVal n) d = .ok f) : f.bits = n := by
  unfold Frame.new natVal at h
  simp only [PyVal.asInt?] at h
  split at h
  · contradiction
  · split at h
    · contradiction
    · split at h
      · contradiction
      · split at h
        · contradiction
        · injection h with h; rw [← h]; simp

theorem newFrame_bits (n x : Nat) (fr : Frame) (h : newFrame n x = .ok fr) : fr.bits = n :=
  frameNew_bits n _ fr h

/-- a successful `add_to_frame` tells the address kind from the frame size -/
theorem addToFrame_ok_kind (a : Addr) (f f' : Frame) (h : a.addToFrame f = .ok f') :
    f.bits = a.frameSize := by
  unfold Addr.addToFrame at h
  split at h
  · contradiction
  · rename_i hs; simpa using hs

theorem frameSize_16 (a : Addr) (h : 16 = a.frameSize) : a.isGear = true := by
  cases hg : a.isGear
  · simp [Addr.frameSize, hg] at h
  · rfl

theorem frameSize_24 (a : Addr) (h : 24 = a.frameSize) : a.isGear = false := by
  cases hg : a.isGear
  · rfl
  · simp [Addr.frameSize, hg] at h

theorem newFrame_addToFrame_kind (n x : Nat) (a : Addr) (f : Frame)
    (h : (newFrame n x >>= a.addToFrame) = .ok f) : n = a.frameSize := by
  obtain ⟨fr, hn, ha⟩ := bind_ok _ _ _ h
  rw [← newFrame_bits n x fr hn]
  exact addToFrame_ok_kind a fr f ha

/-- nothing outside the legal ranges is accepted or truncated into another command's frame: the 4-bit parameter
is in range or absent, the destination a valid *gear* address.  `hreg`: a class with a parameter is registered
under each of its sixteen opcodes -/
theorem std_accepted_is_legal (T : Tables) (c : StdClass)
    (hreg : ∀ p, (if c.hasparam then p ≤ 15 else p = 0) → ((c.dt, c.cmdval + p), c) ∈ T.stdOpcodes)
    (args : List Arg) (hargs : ∀ a ∈ args, ArgOK a) (cmd : Cmd) (f : Frame)
    (h : constructStd c args = .ok cmd) (he : encode cmd = .ok f) : WF T cmd := by
  match args, h with
  | dest :: rest, h =>
    simp only [constructStd] at h
    -- once the parameter `p` is in range, the destination step decides
    have fin : ∀ p, (if c.hasparam then p ≤ 15 else p = 0) →
        (checkDestination dest >>= fun r => match r with
          | .inl a => (pure (.standard c a p) : PyRes Cmd)
          | .inr _ => .error .IncompatibleFrame) = .ok cmd → WF T cmd := by
      intro p hpr h
      obtain ⟨a, hv, rfl⟩ := destination_ok dest (hargs dest (by simp)) _ _ _ h
      -- the frame assembly succeeded, so the address is a gear address
      have hg : a.isGear = true := by
        simp only [encode] at he
        split at he
        · obtain ⟨_, _, he⟩ := bind_ok _ _ _ he
          exact frameSize_16 a (newFrame_addToFrame_kind 16 _ a f he)
        · exact frameSize_16 a (newFrame_addToFrame_kind 16 _ a f he)
      exact ⟨hreg p hpr, hv, hg, hpr⟩
    split at h <;> rename_i hh
    · match rest, h with
      | [q], h =>
        obtain ⟨p, hp, h⟩ := bind_ok _ _ _ h
        exact fin p (by rw [if_pos hh]; exact intParam_le q 15 p hp) h
    · match rest, h with
      | [], h => exact fin 0 (by rw [if_neg hh]) h

theorem dapc_accepted_is_legal (T : Tables) (args : List Arg) (hargs : ∀ a ∈ args, ArgOK a)
    (cmd : Cmd) (f : Frame) (h : constructDapc args = .ok cmd) (he : encode cmd = .ok f) : WF T cmd := by
  match args, h with
  | [dest, power], h =>
    simp only [constructDapc] at h
    -- in each of the three ways the power is given: a level p ≤ 255, then the destination
    have fin : ∀ p, p ≤ 255 →
        (checkDestination dest >>= fun r => match r with
          | .inl a => (pure (.dapc a p) : PyRes Cmd)
          | .inr _ => .error .IncompatibleFrame) = .ok cmd → WF T cmd := by
      intro p hp h
      obtain ⟨a, hv, rfl⟩ := destination_ok dest (hargs dest (by simp)) _ _ _ h
      simp only [encode] at he
      obtain ⟨_, _, he⟩ := bind_ok _ _ _ he
      exact ⟨hv, frameSize_16 a (newFrame_addToFrame_kind 16 _ a f he), hp⟩
    split at h
    · exact fin 0 (by omega) h
    · exact fin 255 (by omega) h
    · obtain ⟨p, hp, h⟩ := bind_ok _ _ _ h
      exact fin p (intParam_le _ 255 p hp) h

theorem special_accepted_is_legal (T : Tables) (c : SpecialClass) (hreg : (c.cmdval, c) ∈ T.specialOpcodes)
    (hk : c.kind = .plain) (args : List Arg) (cmd : Cmd) (h : constructSpecial c args = .ok cmd) :
    WF T cmd := by
  unfold constructSpecial at h
  cases hh : c.hasparam with
  | true =>
    simp only [hh, if_true] at h
    match args, h with
    | [p], h =>
      obtain ⟨q, hq, h⟩ := bind_ok _ _ _ h
      cases h
      exact ⟨hreg, hk, by simp [hh]; exact intParam_le _ 255 q hq⟩
  | false =>
    simp only [hh, Bool.false_eq_true, if_false] at h
    match args, h with
    | [], h =>
      cases h
      exact ⟨hreg, hk, by simp [hh]⟩

theorem shortSpecial_accepted_is_legal (T : Tables) (c : SpecialClass)
    (hreg : (c.cmdval, c) ∈ T.specialOpcodes) (hk : c.kind = .shortAddr) (args : List Arg) (cmd : Cmd)
    (h : constructShortSpecial c args = .ok cmd) : WF T cmd := by
  unfold constructShortSpecial at h
  split at h
  · cases h
    exact ⟨hreg, hk, by intro a ha; cases ha⟩
  · obtain ⟨q, hq, h⟩ := bind_ok _ _ _ h
    cases h
    exact ⟨hreg, hk, by intro a ha; injection ha with ha; subst ha; exact intParam_le _ 63 _ hq⟩
  · contradiction

theorem initialise_accepted_is_legal (T : Tables) (c : SpecialClass)
    (hreg : (c.cmdval, c) ∈ T.specialOpcodes) (hk : c.kind = .initialise) (b a : PyVal) (cmd : Cmd)
    (h : constructInitialise c b a = .ok cmd) : WF T cmd := by
  unfold constructInitialise at h
  split at h
  · contradiction
  · rename_i hc
    cases a with
    | none =>
      cases h
      exact ⟨hreg, hk, by intro x hx; cases hx⟩
    | _ =>
      all_goals
        obtain ⟨q, hq, h⟩ := bind_ok _ _ _ h
        cases h
        refine ⟨hreg, hk, ?_⟩
        intro x hx; injection hx with hx; subst hx
        refine ⟨intParam_le _ 63 _ hq, ?_⟩
        simp only [Bool.and_eq_true, bne_iff_ne, ne_eq, not_and, Decidable.not_not] at hc
        cases hb : b.truthy
        · rfl
        · have := hc hb; simp at this

theorem devStd_accepted_is_legal (T : Tables) (c : DevClass) (hreg : (c.opcode, c) ∈ T.devOpcodes)
    (args : List Arg) (hargs : ∀ a ∈ args, ArgOK a) (cmd : Cmd) (f : Frame)
    (h : constructDevStd c args = .ok cmd) (he : encode cmd = .ok f) : WF T cmd := by
  match args, h with
  | [dest], h =>
    simp only [constructDevStd] at h
    obtain ⟨a, hv, rfl⟩ := destination_ok dest (hargs dest (by simp)) _ _ _ h
    simp only [encode] at he
    exact ⟨hreg, hv, frameSize_24 a (newFrame_addToFrame_kind 24 _ a f he)⟩

theorem devInst_accepted_is_legal (T : Tables) (c : DevClass) (hreg : (c.opcode, c) ∈ T.instOpcodes)
    (dest : Arg) (i : Inst) (hd : ArgOK dest) (hi : i.Canonical) (hnd : i ≠ .device) (cmd : Cmd) (f : Frame)
    (h : constructDevInst c [dest, .inst i] = .ok cmd) (he : encode cmd = .ok f) : WF T cmd := by
  simp only [constructDevInst] at h
  obtain ⟨a, hv, rfl⟩ := destination_ok dest hd _ _ _ h
  simp only [encode] at he
  obtain ⟨fr, hn, he⟩ := bind_ok _ _ _ he
  obtain ⟨fr2, ha, he⟩ := bind_ok _ _ _ he
  have hb := newFrame_bits 24 _ fr hn
  have := addToFrame_ok_kind a fr fr2 ha
  exact ⟨hreg, hv, frameSize_24 a (by rw [← this, hb]), hi, hnd⟩

theorem devSpecial_accepted_is_legal (T : Tables) (c : DevSpecialClass)
    (hreg : DevEntry.special c ∈ T.devCommands) (args : List Arg) (cmd : Cmd)
    (h : constructDevSpecial c args = .ok cmd) : WF T cmd := by
  unfold constructDevSpecial at h
  cases hk : c.kind with
  | zero =>
    simp only [hk] at h
    match args, h with
    | [], h =>
      cases h
      exact ⟨hreg, by simp [hk]⟩
  | one =>
    simp only [hk] at h
    match args, h with
    | [p], h =>
      obtain ⟨q, hq, h⟩ := bind_ok _ _ _ h
      cases h
      exact ⟨hreg, by simp [hk]; exact intParam_le _ 255 q hq⟩
  | two =>
    simp only [hk] at h
    match args, h with
    | [a, b], h =>
      cases a <;> cases b <;> simp only at h <;> try contradiction
      rename_i va vb
      cases h1 : va.asInt? <;> cases h2 : vb.asInt? <;> simp only [h1, h2] at h <;> try contradiction
      obtain ⟨qa, hqa, h⟩ := bind_ok _ _ _ h
      obtain ⟨qb, hqb, h⟩ := bind_ok _ _ _ h
      cases h
      exact ⟨hreg, by simp [hk]; exact ⟨intParam_le _ 255 qa hqa, intParam_le _ 255 qb hqb⟩⟩
  | abstractBase => simp [hk] at h
  | custom => simp [hk] at h

end DaliVerif.Cmd
