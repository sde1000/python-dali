import DaliVerif.Proofs.DecodeDevice
/-!
# C01/C12: event frames

An event object's frame is `srcBits t src + dataOf body` (`event_encode`); `_Event.from_frame` is put in
`/ 2^k % 2^j` form (`eventFromFrame_eq`), and what it returns re-encodes to the frame it was given (`event_sound`).
-/
set_option linter.unusedSimpArgs false
namespace DaliVerif.Cmd
open Frame Spec

/-- the source-identification bits of an event frame (part 103 Table 3) -/
def srcBits (t : Nat) : EventSrc → Nat
  | .device sa => sa * 131072 + t * 1024
  | .deviceInstance sa inum => sa * 131072 + 32768 + inum * 1024
  | .deviceGroup g => 8388608 + g * 131072 + t * 1024
  | .instanceGroup g => 8388608 + 4194304 + g * 131072 + t * 1024
  | .inst inum => 8388608 + t * 131072 + 32768 + inum * 1024

/-- the fields of a source are within their 5/6-bit ranges -/
def SrcOK : EventSrc → Prop
  | .device sa => sa ≤ 63
  | .deviceInstance sa inum => sa ≤ 63 ∧ inum ≤ 31
  | .deviceGroup g => g ≤ 31
  | .instanceGroup g => g ≤ 31
  | .inst inum => inum ≤ 31

/-- does the scheme put the instance type into the frame? -/
def srcHasType : EventSrc → Bool
  | .deviceInstance .. => false
  | _ => true

/-- the ten information bits an event body puts into its frame -/
def dataOf : EventBody → Nat
  | .pushbutton pc => pc.info
  | .occupancy a b c d => a.toNat + 2 * b.toNat + 4 * c.toNat + 8 * d.toNat
  | .light v => v
  | .unknown x => x

theorem mkDeviceShort_ok (sa : Nat) (h : sa ≤ 63) :
    Addr.mkDeviceShort (natVal sa) = .ok (.deviceShort sa) := by
  unfold Addr.mkDeviceShort Addr.mkNumbered natVal
  have : ¬ ((sa : Int) < 0 ∨ (sa : Int) > 63) := by omega
  simp [PyVal.asInt?, this]

theorem deviceShort_addToFrame (sa d : Nat) (h : sa ≤ 63 ∧ d < 2 ^ 24) :
    (Addr.deviceShort sa).addToFrame ⟨24, d⟩ = .ok ⟨24, 131072 * sa + d % 131072⟩ :=
  Addr.addToFrame_device (.deviceShort sa) h.1 rfl d h.2

/-- the source writes of `_Event.__init__` on a frame that so far holds only event information `x < 1024`:
every write goes into a field that is still zero -/
theorem eventSrc_ok (x t : Nat) (src : EventSrc) (hx : x < 1024) (hs : SrcOK src)
    (ht : srcHasType src = true → t ≤ 31) :
    eventSrcToFrame ⟨24, x⟩ (t : Int) src = .ok ⟨24, srcBits t src + x⟩ := by
  cases src <;>
    simp only [SrcOK, srcHasType, forall_const, Bool.false_eq_true, false_implies] at hs ht <;>
    simp (disch := omega) only [eventSrcToFrame, bind, Except.bind, setSlice_add, setBit_add,
      mkDeviceShort_ok, deviceShort_addToFrame, Nat.reducePow, Bool.toNat_true, Bool.toNat_false, srcBits,
      Except.ok.injEq, Frame.mk.injEq, true_and] <;>
    omega

/-- `eventSrc_ok` for the integer instance type a map may deliver: it is only
written into the frame by the schemes that carry it -/
theorem eventSrc_ok_int (x : Nat) (t : Int) (src : EventSrc) (hx : x < 1024) (hs : SrcOK src)
    (ht : srcHasType src = true → 0 ≤ t ∧ t ≤ 31) :
    eventSrcToFrame ⟨24, x⟩ t src = .ok ⟨24, srcBits t.toNat src + x⟩ := by
  cases h : srcHasType src
  · cases src <;> simp only [srcHasType, reduceCtorEq] at h
    exact eventSrc_ok x t.toNat _ hx hs (fun h => nomatch h)
  · obtain ⟨h0, h31⟩ := ht h
    have := eventSrc_ok x t.toNat src hx hs (fun _ => by omega)
    rwa [Int.toNat_of_nonneg h0] at this

/-- the source bits of each scheme as Table 3's digits (`hi`: the 7 bits above bit 16, `b15`, `lo`: the five bits
below bit 15), with what the digits say to a reader of the table: the scheme and its fields -/
theorem srcBits_digits (t : Nat) (src : EventSrc) (hs : SrcOK src) (ht : srcHasType src = true → t ≤ 31) :
    ∃ hi b15 lo, hi < 128 ∧ b15 < 2 ∧ lo < 32 ∧ srcBits t src = hi * 131072 + b15 * 32768 + lo * 1024 ∧
      match src with
      | .device sa => hi / 64 = 0 ∧ b15 = 0 ∧ hi % 64 = sa ∧ lo = t
      | .deviceInstance sa inum => hi / 64 = 0 ∧ b15 = 1 ∧ hi % 64 = sa ∧ lo = inum
      | .deviceGroup g => hi / 64 = 1 ∧ hi / 32 % 2 = 0 ∧ b15 = 0 ∧ hi % 32 = g ∧ lo = t
      | .inst inum => hi / 64 = 1 ∧ hi / 32 % 2 = 0 ∧ b15 = 1 ∧ hi % 32 = t ∧ lo = inum
      | .instanceGroup g => hi / 64 = 1 ∧ hi / 32 % 2 = 1 ∧ b15 = 0 ∧ hi % 32 = g ∧ lo = t := by
  cases src <;> simp only [SrcOK, srcHasType, forall_const, srcBits] at hs ht ⊢
  case device sa => exact ⟨sa, 0, t, by omega⟩
  case deviceInstance sa inum => exact ⟨sa, 1, inum, by omega⟩
  case deviceGroup g => exact ⟨64 + g, 0, t, by omega⟩
  case inst inum => exact ⟨64 + t, 1, inum, by omega⟩
  case instanceGroup g => exact ⟨96 + g, 0, t, by omega⟩

theorem srcBits_lt (t : Nat) (src : EventSrc) (hs : SrcOK src) (ht : srcHasType src = true → t ≤ 31) :
    srcBits t src < 2 ^ 24 ∧ srcBits t src % 1024 = 0 ∧ srcBits t src / 65536 % 2 = 0 := by
  obtain ⟨hi, b15, lo, _, _, _, e, _⟩ := srcBits_digits t src hs ht
  omega

theorem setData_ok (S data : Nat) (hS : S < 2 ^ 24) (h0 : S % 1024 = 0) (hd : data < 1024) :
    setSlice ⟨24, S⟩ 9 0 data = .ok ⟨24, S + data⟩ := by
  rw [setSlice_add 24 S 9 0 data (by omega)]
  congr 2; omega

/-- the masks `data & 2^k == 2^k` of `occupancy.py` test bit `k` -/
theorem flag_eq (x k : Nat) : (x &&& 2 ^ k == 2 ^ k) = decide (x / 2 ^ k % 2 = 1) := by
  have hp := Nat.two_pow_pos k
  rw [and_two_pow]
  rcases Nat.mod_two_eq_zero_or_one (x / 2 ^ k) with h | h <;> simp [h] <;> omega

theorem toNat_decide_mod2 (n : Nat) : (decide (n % 2 = 1)).toNat = n % 2 := by
  rcases Nat.mod_two_eq_zero_or_one n with h | h <;> simp [h]

/-- `occupancy.py` accepts the information bits `x` when `x | 0b1111 == 0b1111` -/
theorem occ_iff (x : Nat) : x ||| 0b1111 = 0b1111 ↔ x < 16 := by
  have h1 := Nat.left_le_or (n := x) (m := 0b1111)
  have h2 := Nat.right_le_or (n := x) (m := 0b1111)
  constructor
  · omega
  · intro h
    have := Nat.or_lt_two_pow (n := 4) h (by decide : 0b1111 < 2 ^ 4)
    omega

theorem occ_flags (x : Nat) :
    (x &&& 1 == 1) = decide (x % 2 = 1) ∧ (x &&& 2 == 2) = decide (x / 2 % 2 = 1) ∧
    (x &&& 4 == 4) = decide (x / 4 % 2 = 1) ∧ (x &&& 8 == 8) = decide (x / 8 % 2 = 1) :=
  ⟨by simpa using flag_eq x 0, flag_eq x 1, flag_eq x 2, flag_eq x 3⟩

theorem occ_read : ∀ a b c d : Bool,
    a.toNat + 2 * b.toNat + 4 * c.toNat + 8 * d.toNat < 16 ∧
    (a.toNat + 2 * b.toNat + 4 * c.toNat + 8 * d.toNat &&& 1 == 1) = a ∧
    (a.toNat + 2 * b.toNat + 4 * c.toNat + 8 * d.toNat &&& 2 == 2) = b ∧
    (a.toNat + 2 * b.toNat + 4 * c.toNat + 8 * d.toNat &&& 4 == 4) = c ∧
    (a.toNat + 2 * b.toNat + 4 * c.toNat + 8 * d.toNat &&& 8 == 8) = d := by decide

theorem occ_writes (S : Nat) (a b c d : Bool) (hS : S < 2 ^ 24) (h0 : S % 1024 = 0) :
    (do
      let f ← setBit ⟨24, S⟩ 0 a
      let f ← setBit f 1 b
      let f ← setBit f 2 c
      f.setItem (.idx (natVal 3)) (.int (if d then 1 else 0)) : PyRes Frame)
      = .ok ⟨24, S + (a.toNat + 2 * b.toNat + 4 * c.toNat + 8 * d.toNat)⟩ := by
  have ha := Bool.toNat_le a
  have hb := Bool.toNat_le b
  have hc := Bool.toNat_le c
  have hd : (PyVal.int (if d then 1 else 0)).truthy = d := by cases d <;> rfl
  simp (disch := omega) only [bind, Except.bind, setBit_add, setItemIdx_add, hd, Nat.reducePow,
    Except.ok.injEq, Frame.mk.injEq, true_and]
  omega

theorem event_encode (cls : String) (t : Nat) (src : EventSrc) (body : EventBody) (hs : SrcOK src)
    (ht : srcHasType src = true → t ≤ 31) (hb : dataOf body < 1024) :
    encode (.event cls t src body) = .ok ⟨24, srcBits t src + dataOf body⟩ := by
  obtain ⟨hlt, hm, _⟩ := srcBits_lt t src hs ht
  have hsrc0 := eventSrc_ok 0 t src (by omega) hs ht
  have hnew0 : newFrame 24 0 = .ok ⟨24, 0⟩ := newFrame_ok 24 0 (by omega) (by omega)
  cases body with
  | pushbutton pc =>
    simp only [encode, bind, Except.bind, newFrame_ok 24 pc.info (by omega) (Nat.lt_trans hb (by decide)),
      eventSrc_ok pc.info t src hb hs ht]
    rfl
  | occupancy a b c d =>
    simp only [encode, bind, Except.bind, hnew0, hsrc0, Nat.add_zero]
    exact occ_writes _ a b c d hlt hm
  | light v =>
    simp only [encode, bind, Except.bind, hnew0, hsrc0, Nat.add_zero]
    exact setData_ok _ _ hlt hm hb
  | unknown x =>
    simp only [encode, bind, Except.bind, hnew0, hsrc0, Nat.add_zero]
    exact setData_ok _ _ hlt hm hb

theorem unknownEvent_encode (t : Int) (src : EventSrc) (data : Nat) (hs : SrcOK src)
    (ht : srcHasType src = true → 0 ≤ t ∧ t ≤ 31) (hd : data < 1024) :
    encode (.unknownEvent t src data) = .ok ⟨24, srcBits t.toNat src + data⟩ := by
  obtain ⟨hlt, hm, _⟩ := srcBits_lt t.toNat src hs (fun h => by have := ht h; omega)
  simp only [encode, bind, Except.bind, newFrame_ok 24 0 (by omega) (by omega),
    eventSrc_ok_int 0 t src (by omega) hs ht, Nat.add_zero]
  exact setData_ok _ _ hlt hm hd

theorem ambiguous_encode (sa inum data : Nat) (hsa : sa ≤ 63) (hin : inum ≤ 31) (hd : data < 1024) :
    encode (.ambiguous sa inum data) = .ok ⟨24, srcBits 0 (.deviceInstance sa inum) + data⟩ :=
  unknownEvent_encode 0 (.deviceInstance sa inum) data ⟨hsa, hin⟩ (fun h => nomatch h) hd

theorem eventOfType_sound (T : Tables) (hT : TableFacts T) (t : Int) (src : EventSrc) (data : Nat)
    (hs : SrcOK src) (ht : srcHasType src = true → 0 ≤ t ∧ t ≤ 31) (hd : data < 1024) :
    encode (eventOfType T t src data) = .ok ⟨24, srcBits t.toNat src + data⟩ := by
  have hunknown := unknownEvent_encode t src data hs ht hd
  have hevent : ∀ cls body, dataOf body = data →
      encode (.event cls t.toNat src body) = .ok ⟨24, srcBits t.toNat src + data⟩ := by
    intro cls body hb
    rw [event_encode cls t.toNat src body hs (fun h => by have := ht h; omega) (by omega), hb]
  unfold eventOfType
  simp only []
  split
  · exact hunknown
  · split
    · exact hunknown
    · rename_i et _
      cases hk : et.kind <;> simp only []
      · split
        · rename_i pc hl
          exact hevent _ _ ((pushOK_iff _ _).mp (hT.push _ (lookup_mem hl))).1
        · exact hunknown
      · split
        · exact hunknown
        · rename_i hocc
          obtain ⟨f0, f1, f2, f3⟩ := occ_flags data
          have := (occ_iff data).mp (by simpa using hocc)
          apply hevent
          simp only [dataOf, f0, f1, f2, f3, toNat_decide_mod2]
          omega
      · exact hevent _ _ rfl
      · exact hunknown

theorem eventOfType_not_ambiguous (T : Tables) (t : Int) (src : EventSrc) (data : Nat) :
    isAmbiguous (eventOfType T t src data) = false := by
  unfold eventOfType
  simp only []
  repeat' split
  all_goals rfl

theorem eventFromFrame_eq (T : Tables) (d : Nat) (m : Option InstMap) :
    eventFromFrame T ⟨24, d⟩ m =
      if d / 65536 % 2 = 1 then none
      else if d / 8388608 % 2 = 0 ∧ d / 32768 % 2 = 0 then
        some (eventOfType T (d / 1024 % 32 : Nat) (.device (d / 131072 % 64)) (d % 1024))
      else if d / 8388608 % 2 = 0 ∧ d / 32768 % 2 = 1 then
        (match m.bind (·.getType (d / 131072 % 64) (d / 1024 % 32)) with
         | none => some (.ambiguous (d / 131072 % 64) (d / 1024 % 32) (d % 1024))
         | some t => some (eventOfType T t (.deviceInstance (d / 131072 % 64) (d / 1024 % 32)) (d % 1024)))
      else if d / 4194304 % 2 = 0 ∧ d / 32768 % 2 = 0 then
        some (eventOfType T (d / 1024 % 32 : Nat) (.deviceGroup (d / 131072 % 32)) (d % 1024))
      else if d / 4194304 % 2 = 0 ∧ d / 32768 % 2 = 1 then
        some (eventOfType T (d / 131072 % 32 : Nat) (.inst (d / 1024 % 32)) (d % 1024))
      else if d / 4194304 % 2 = 1 ∧ d / 32768 % 2 = 0 then
        some (eventOfType T (d / 1024 % 32 : Nat) (.instanceGroup (d / 131072 % 32)) (d % 1024))
      else none := by
  rcases Nat.mod_two_eq_zero_or_one (d / 8388608) with h23 | h23 <;>
    rcases Nat.mod_two_eq_zero_or_one (d / 32768) with h15 | h15 <;>
    simp only [eventFromFrame, bit, bitTest_eq, slice, getSliceRaw_eq, Nat.reducePow, Nat.reduceAdd, Nat.reduceSub,
      Nat.div_one, Bool.and_eq_true, Bool.not_eq_true', decide_eq_false_iff_not, decide_eq_true_eq,
      Nat.mod_two_ne_one, h23, h15, and_true, and_false, true_and, false_and, Nat.one_ne_zero, Nat.zero_ne_one,
      not_true_eq_false, not_false_eq_true, if_true, if_false] <;> rfl

/-- `hi`: the 7 bits above bit 16; `lo`: the five bits below bit 15; `info`: the ten information bits -/
theorem table3_digits {hi b15 lo info : Nat} (hhi : hi < 128) (hb : b15 < 2) (hlo : lo < 32) (hinfo : info < 1024)
    {d : Nat} (hd : d = hi * 131072 + b15 * 32768 + lo * 1024 + info) :
    d / 65536 % 2 = 0 ∧ d / 8388608 % 2 = hi / 64 ∧ d / 4194304 % 2 = hi / 32 % 2 ∧
    d / 32768 % 2 = b15 ∧ d / 131072 % 32 = hi % 32 ∧ d / 131072 % 64 = hi % 64 ∧
    d / 1024 % 32 = lo ∧ d % 1024 = info := by omega

theorem eventFromFrame_digits (T : Tables) (m : Option InstMap) (hi b15 lo info : Nat) (hhi : hi < 128)
    (hb : b15 < 2) (hlo : lo < 32) (hinfo : info < 1024) :
    eventFromFrame T ⟨24, hi * 131072 + b15 * 32768 + lo * 1024 + info⟩ m =
      if hi / 64 = 0 ∧ b15 = 0 then some (eventOfType T lo (.device (hi % 64)) info)
      else if hi / 64 = 0 ∧ b15 = 1 then
        (match m.bind (·.getType (hi % 64) lo) with
         | none => some (.ambiguous (hi % 64) lo info)
         | some t => some (eventOfType T t (.deviceInstance (hi % 64) lo) info))
      else if hi / 32 % 2 = 0 ∧ b15 = 0 then some (eventOfType T lo (.deviceGroup (hi % 32)) info)
      else if hi / 32 % 2 = 0 ∧ b15 = 1 then some (eventOfType T (hi % 32 : Nat) (.inst lo) info)
      else if hi / 32 % 2 = 1 ∧ b15 = 0 then some (eventOfType T lo (.instanceGroup (hi % 32)) info)
      else none := by
  obtain ⟨h1, h2, h3, h4, h5, h6, h7, h8⟩ := table3_digits hhi hb hlo hinfo rfl
  simp only [eventFromFrame_eq, h1, h2, h3, h4, h5, h6, h7, h8, Nat.zero_ne_one, if_false]

theorem eventFrame_digits (d : Nat) (hd : d < 2 ^ 24) (h16 : d / 65536 % 2 = 0) :
    ∃ hi b15 lo info, hi < 128 ∧ b15 < 2 ∧ lo < 32 ∧ info < 1024 ∧
      d = hi * 131072 + b15 * 32768 + lo * 1024 + info :=
  ⟨d / 131072, d / 32768 % 2, d / 1024 % 32, d % 1024, by omega⟩

theorem event_sound (T : Tables) (hT : TableFacts T) (d : Nat) (hd : d < 2 ^ 24)
    (m : Option InstMap) (c : Cmd)
    (h : eventFromFrame T ⟨24, d⟩ m = some c) : encode c = .ok ⟨24, d⟩ := by
  by_cases h16 : d / 65536 % 2 = 0
  case neg => rw [eventFromFrame_eq, if_pos (by omega)] at h; cases h
  obtain ⟨hi, b15, lo, info, hhi, hb, hlo, hinfo, rfl⟩ := eventFrame_digits d hd h16
  clear hd h16
  rw [eventFromFrame_digits T m hi b15 lo info hhi hb hlo hinfo] at h
  -- the decoded source, re-encoded with the decoded information bits, is the frame
  have fin : ∀ (t : Nat) src, SrcOK src ∧ t ≤ 31 ∧ srcBits t src = hi * 131072 + b15 * 32768 + lo * 1024 →
      encode (eventOfType T t src info) = .ok ⟨24, hi * 131072 + b15 * 32768 + lo * 1024 + info⟩ := by
    intro t src ⟨hs, ht, he⟩
    rw [eventOfType_sound T hT t src _ hs (fun _ => by omega) hinfo, Int.toNat_natCast, he]
  split at h
  · cases h; exact fin _ _ (by simp only [SrcOK, srcBits]; omega)
  split at h
  · have hs : SrcOK (.deviceInstance (hi % 64) lo) ∧
        ∀ t, srcBits t (.deviceInstance (hi % 64) lo) = hi * 131072 + b15 * 32768 + lo * 1024 := by
      simp only [SrcOK, srcBits, forall_const]; omega
    split at h <;> cases h
    · rw [ambiguous_encode _ _ _ hs.1.1 hs.1.2 hinfo, hs.2]
    · rw [eventOfType_sound T hT _ _ _ hs.1 (fun h => nomatch h) hinfo, hs.2]
  split at h
  · cases h; exact fin _ _ (by simp only [SrcOK, srcBits]; omega)
  split at h
  · cases h; exact fin _ _ (by simp only [SrcOK, srcBits]; omega)
  split at h
  · cases h; exact fin _ _ (by simp only [SrcOK, srcBits]; omega)
  · cases h

end DaliVerif.Cmd
