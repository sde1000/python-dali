import DaliVerif.Proofs.MemValue
import DaliVerif.Proofs.Bits
/-!
# Further lemmas for C11

Facts about the reference decoder, byte-string arithmetic for the round trips (unsigned and
two's complement), and the decidable checks on the generated tables that `Props/C11.lean`
evaluates (`bankAddrs`, `occupiedOK`, `lockableOK`; `unpin`, `bankCore` to compare with the
transcribed tables).
-/
namespace DaliVerif.Mem
open DaliVerif DaliVerif.Spec.Mem

theorem decode_not_mask (r : Row) (raw : List Nat) :
    decode r raw ≠ .flag .MASK ∧ decode r raw ≠ .flag .TMASK := by
  unfold decode
  cases r.kind <;> simp only [] <;> (repeat' split) <;> simp

theorem be_replicate (n : Nat) : be (List.replicate n 255) + 1 = 256 ^ n := by
  induction n with
  | zero => simp [be]
  | succ k ih =>
    simp only [List.replicate_succ, be, List.length_replicate, Nat.pow_succ]
    omega

theorem be_append_singleton (l : List Nat) (b : Nat) : be (l ++ [b]) = be l * 256 + b := by
  rw [← beNat_eq_be, ← beNat_eq_be]
  exact Frame.ofBytesBE_append_singleton l b

theorem be_lt (l : List Nat) (h : ∀ b ∈ l, b < 256) : be l < 256 ^ l.length := by
  induction l with
  | nil => simp [be]
  | cons a rest ih =>
    have ha : a < 256 := h a (by simp)
    have hr := ih (fun b hb => h b (by simp [hb]))
    simp only [be, List.length_cons, Nat.pow_succ]
    have : a * 256 ^ rest.length ≤ 255 * 256 ^ rest.length := Nat.mul_le_mul_right _ (by omega)
    omega

theorem toBytes_eq (n len : Nat) : toBytes n len = Frame.toBytesBE n len := by
  induction len generalizing n with
  | zero => rfl
  | succ k ih => simp [toBytes, Frame.toBytesBE, ih]

theorem beNat_toBytes (n len : Nat) : beNat (toBytes n len) = n % 256 ^ len := by
  rw [toBytes_eq]; exact Frame.ofBytesBE_toBytesBE n len

theorem untilNul_noNul (l : List Nat) (h : ∀ c ∈ l, c ≠ 0) : untilNul l = l := by
  induction l with
  | nil => rfl
  | cons a rest ih =>
    have ha : a ≠ 0 := h a (by simp)
    simp [untilNul, ha, ih (fun c hc => h c (by simp [hc]))]

theorem untilNul_append_nul (l t : List Nat) (h : ∀ c ∈ l, c ≠ 0) : untilNul (l ++ 0 :: t) = l := by
  induction l with
  | nil => simp [untilNul]
  | cons a rest ih =>
    have ha : a ≠ 0 := h a (by simp)
    simp [untilNul, ha, ih (fun c hc => h c (by simp [hc]))]

theorem toBytes_length (n len : Nat) : (toBytes n len).length = len := by
  rw [toBytes_eq, Frame.toBytesBE_length]

theorem toBytes_head (m k : Nat) (t : List Nat) :
    (toBytes m (k + 1) ++ t).headD 0 = m / 256 ^ k % 256 := by
  induction k generalizing m t with
  | zero => simp [toBytes]
  | succ k ih => rw [toBytes, List.append_assoc, ih, Nat.div_div_eq_div_mul, Nat.pow_succ, Nat.mul_comm]

/-- the top byte of a number of `k + 1` bytes has its sign bit set iff the number is in the upper half -/
theorem top_byte_ge (P y : Nat) (hP : 0 < P) (hy : y < P * 256) : 128 ≤ y / P % 256 ↔ 128 * P ≤ y := by
  rw [Nat.mod_eq_of_lt ((Nat.div_lt_iff_lt_mul hP).mpr (by omega)), Nat.le_div_iff_mul_le hP]

/-- `int.from_bytes(x.to_bytes(n, 'big', signed=True), 'big', signed=True) == x` for every `x` that fits -/
theorem fromBytes_signed_toBytes (n : Nat) (hn : 1 ≤ n) (x : Int)
    (hlo : -((256 : Int) ^ n / 2) ≤ x) (hhi : x < (256 : Int) ^ n / 2) :
    fromBytes true (toBytes (x % (256 : Int) ^ n).toNat n) = x := by
  obtain ⟨k, rfl⟩ : ∃ k, n = k + 1 := ⟨n - 1, by omega⟩
  have hM : (256 : Int) ^ (k + 1) = ((256 ^ k : Nat) : Int) * 256 := by
    rw [Int.pow_succ, Int.natCast_pow]; rfl
  have hP : 0 < 256 ^ k := Nat.pow_pos (by decide)
  have hhead := fun m => List.append_nil _ ▸ toBytes_head m k []
  simp only [fromBytes, Bool.true_and, toBytes_length, hhead, beNat_toBytes, decide_eq_true_eq,
    Nat.pow_succ]
  rw [hM] at hlo hhi ⊢
  generalize 256 ^ k = P at *
  have hmod : x % (↑P * 256) = if 0 ≤ x then x else x + ↑P * 256 := by
    split
    · exact Int.emod_eq_of_lt ‹_› (by omega)
    · rw [Int.emod_eq_add_self_emod]; exact Int.emod_eq_of_lt (by omega) (by omega)
  generalize hm : (x % (↑P * 256)).toNat = m
  have hm' : (m : Int) = x % (↑P * 256) := by rw [← hm]; split at hmod <;> omega
  have hlt : m < P * 256 := by split at hmod <;> omega
  simp only [Nat.mod_eq_of_lt hlt, top_byte_ge P m hP hlt]
  split at hmod <;> split <;> omega

/-- `NumericValue.value_to_raw` of an `int` (which is neither of the strings "MASK", "TMASK") -/
theorem valueToRaw_int (v : MemValue) (hw : v.v2r = .numeric) (x : Int) :
    valueToRaw v (.int x) = some (intToBytes v.signed v.locs.length x) := by
  have e1 : (WVal.int x == WVal.str [77, 65, 83, 75]) = false := rfl
  have e2 : (WVal.int x == WVal.str [84, 77, 65, 83, 75]) = false := rfl
  simp only [valueToRaw, hw, e1, e2, Bool.and_false, Bool.false_eq_true, if_false]

/-- a row of the transcribed table without its provenance mark -/
def unpin (r : Row) : Row := { r with pinned := false }

def bankCore (b : Bank) : BankRow :=
  { key := b.key, address := b.address, lastAddress := b.lastAddress, hasLock := b.hasLock,
    hasLatch := b.hasLatch }

def bankAddrs (vals : List MemValue) (k : String) : List Nat :=
  (vals.filter (·.bank == k)).flatMap fun v => v.locs.map (·.addr)

/-- `bank.locations` lists exactly the locations of the values of the bank -/
def occupiedOK (vals : List MemValue) (b : Bank) : Bool :=
  b.occupied.all (fun p => vals.any fun v => v.bank == b.key && v.name == p.2 && v.locs.any (·.addr == p.1)) &&
  (bankAddrs vals b.key).all (fun a => b.occupied.any (·.1 == a)) &&
  b.occupied.length == (bankAddrs vals b.key).length

/-- `bank.locations` as the values of the bank determine it: every location of every value,
in declaration order, with the name of the value that owns it -/
def occupiedBy (vals : List MemValue) (k : String) : List (Nat × String) :=
  (vals.filter (·.bank == k)).flatMap fun v => v.locs.map fun l => (l.addr, v.name)

theorem occupiedOK_of_eq (vals : List MemValue) (b : Bank) (h : b.occupied = occupiedBy vals b.key) :
    occupiedOK vals b = true := by
  simp only [occupiedOK, bankAddrs, h, occupiedBy, Bool.and_eq_true, List.all_eq_true, List.any_eq_true,
    List.mem_flatMap, List.mem_map, List.mem_filter, beq_iff_eq, List.length_flatMap, List.length_map]
  refine ⟨⟨?_, ?_⟩, trivial⟩
  · rintro _ ⟨v, ⟨hv, hk⟩, l, hl, rfl⟩
    exact ⟨v, hv, ⟨hk, rfl⟩, l, hl, rfl⟩
  · rintro _ ⟨v, hv, l, hl, rfl⟩
    exact ⟨_, ⟨v, hv, l, hl, rfl⟩, rfl⟩

def lockableOK (banks : List Bank) (v : MemValue) : Bool :=
  !(v.locs.any (·.type == .NVM_RW_L)) || banks.any (fun b => b.key == v.bank && b.hasLock)

end DaliVerif.Mem
