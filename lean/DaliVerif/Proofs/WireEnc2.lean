import DaliVerif.Proofs.WireEnc
/-!
# C18: the gateways one by one

What hid.hasseb writes, the fields of a Tridonic report, LUBA's priority; the ATX hat's line — frames of any width as
hex text, written and read back; what hid.tridonic's receive loop returns over the reports of one command; the UniPi
polling loop against the gateway's receive registers.
-/
namespace DaliVerif.Proofs.WireEnc2
open DaliVerif Wire Spec.Gateways Proofs.WireEnc Gen.DriverConsts

theorem packLenNat_ok (f : Frame) (l : Nat) (fr : List Nat) (h : f.packLenNat l = .ok fr) :
    fr = Frame.toBytesBE f.data l ∧ f.data < 256 ^ l := by
  unfold Frame.packLenNat at h
  split at h
  · injection h with h; exact ⟨h.symm, by assumption⟩
  · cases h

/-- hid.hasseb: each write is `frame.pack_len(2)`, which has accepted the frame (it fits two bytes) -/
theorem hidhasseb_writes (c : Cmd) (ws : List (List Nat)) (h : HidHasseb.encode c = .ok ws) :
    c.frame.data < 256 ^ 2 ∧ ∀ w ∈ ws, w = Frame.toBytesBE c.frame.data 2 := by
  unfold HidHasseb.encode at h
  split at h
  · cases h
  · split at h
    · cases h
    · rename_i fr heq
      obtain ⟨rfl, hlt⟩ := packLenNat_ok _ _ _ heq
      injection h with h; subst h
      exact ⟨hlt, fun w hw => List.eq_of_mem_replicate hw⟩

/-- Tridonic report to the gateway: sequence number, mode code and the frame right-aligned in bytes 4..7 -/
theorem tridonicSend_fields {seq bits data : Nat} {tw : Bool} {p : List Nat}
    (h : tridonicSend seq bits data tw = some p) (hd : data < 2 ^ bits) :
    Frame.ofBytesBE ((p.drop 4).take 4) = data ∧ p.getD 1 0 = seq ∧
      p.getD 3 0 = (if bits = 16 then 3 else 6) := by
  obtain ⟨rfl, rfl⟩ | ⟨rfl, rfl⟩ := of_two_widths h <;> refine ⟨?_, rfl, rfl⟩
  · show Frame.ofBytesBE [0, 0, data / 256 % 256, data % 256] = data
    rw [ofBytesBE_zero_cons, ofBytesBE_zero_cons, ofBytesBE_two hd]
  · show Frame.ofBytesBE [0, data / 65536 % 256, data / 256 % 256, data % 256] = data
    rw [ofBytesBE_zero_cons, ofBytesBE_three hd]

theorem luba_priority (c : Cmd) : Luba.priority c = lubaPriorityRule c := by
  obtain ⟨f, tw, q, s, dp⟩ := c
  cases tw <;> cases q <;> cases s <;> cases dp <;> rfl

theorem lubaPriorityRule_lt (c : Cmd) : lubaPriorityRule c < 128 := by
  unfold lubaPriorityRule; split <;> decide

def nbytes (bits : Nat) : Nat := bits / 8 + (if bits % 8 != 0 then 1 else 0)

theorem two_pow_le_256 (bits : Nat) : 2 ^ bits ≤ 256 ^ nbytes bits := by
  have : (256 : Nat) = 2 ^ 8 := by decide
  rw [this, ← Nat.pow_mul]
  apply Nat.pow_le_pow_right (by decide)
  unfold nbytes
  by_cases h : bits % 8 = 0 <;> simp [h] <;> omega

theorem ofBytesBE_bytesOf (f : Frame) (h : f.data < 2 ^ f.bits) : Frame.ofBytesBE (bytesOf f) = f.data := by
  unfold bytesOf
  rw [Frame.ofBytesBE_toBytesBE]
  exact Nat.mod_eq_of_lt (Nat.lt_of_lt_of_le h (two_pow_le_256 f.bits))

theorem bytesOf_length (f : Frame) : (bytesOf f).length = nbytes f.bits := Frame.toBytesBE_length _ _

theorem bytesOf_lt (f : Frame) : ∀ b ∈ bytesOf f, b < 256 := Frame.toBytesBE_lt _ _

theorem hexChars_getD : ∀ n, n < 16 → hexChars.getD n 0 = Atx.hexDigit n := by decide

theorem hexByte_eq (b : Nat) (h : b < 256) : hexByte b = [Atx.hexDigit (b / 16), Atx.hexDigit (b % 16)] := by
  rw [hexByte, hexChars_getD _ (by omega), hexChars_getD _ (by omega)]

def nibbles (bs : List Nat) : List Nat := bs.flatMap (fun b => [b / 16, b % 16])
def hexText (bs : List Nat) : List Nat := bs.flatMap (fun b => [Atx.hexDigit (b / 16), Atx.hexDigit (b % 16)])

theorem hexVal_hexDigit : ∀ n, n < 16 → Atx.hexVal? (Atx.hexDigit n) = some n := by decide

theorem hexText_mapM (bs : List Nat) (h : ∀ b ∈ bs, b < 256) : (hexText bs).mapM Atx.hexVal? = some (nibbles bs) := by
  induction bs with
  | nil => rfl
  | cons b bs ih =>
    have hb : b < 256 := h b (by simp)
    have ih' := ih (fun x hx => h x (by simp [hx]))
    have e1 := hexVal_hexDigit (b / 16) (by omega)
    have e2 := hexVal_hexDigit (b % 16) (by omega)
    simp only [hexText, nibbles, List.flatMap_cons, List.cons_append, List.nil_append, List.mapM_cons, e1, e2] at ih' ⊢
    simp [ih']

theorem nibbles_foldl (bs : List Nat) (acc : Nat) :
    (nibbles bs).foldl (fun a d => a * 16 + d) acc = bs.foldl (fun a b => a * 256 + b) acc := by
  induction bs generalizing acc with
  | nil => rfl
  | cons b bs ih =>
    simp only [nibbles, List.flatMap_cons, List.cons_append, List.nil_append, List.foldl_cons] at ih ⊢
    rw [ih]
    congr 1
    omega

theorem length_flatMap_pair {α} (f g : Nat → α) (bs : List Nat) :
    (bs.flatMap (fun b => [f b, g b])).length = 2 * bs.length := by
  induction bs with
  | nil => rfl
  | cons b bs ih =>
    simp only [List.flatMap_cons, List.length_append, List.length_cons, List.length_nil, ih]; omega

theorem nibbles_length (bs : List Nat) : (nibbles bs).length = 2 * bs.length := length_flatMap_pair _ _ bs

theorem hexText_length (bs : List Nat) : (hexText bs).length = 2 * bs.length := length_flatMap_pair _ _ bs

/-- `t` (116) is no width's letter in the hat's table, so it can stand for "send twice" -/
theorem atxPrefix_ne_t : ∀ e ∈ atxPrefixTable, e.2 ≠ 116 := by decide

/-- the line `construct` writes: a letter from the hat's table (`t` instead for a send-twice 16-bit command), two
hex digits per frame byte, newline -/
theorem atx_shape (c : Cmd) (p : List Nat) (h : Atx.encode c = .ok p) :
    ∃ pfx, p = [pfx] ++ hexText (bytesOf c.frame) ++ [10] ∧
      (pfx = 116 ↔ (c.sendtwice = true ∧ c.frame.bits = 16)) := by
  unfold Atx.encode at h
  split at h
  · cases h
  · rename_i p0 hl
    injection h with h
    refine ⟨_, h.symm, ?_⟩
    have hp : p0 ≠ 116 := by
      obtain ⟨l₁, l₂, e, _⟩ := List.lookup_eq_some_iff.mp hl
      exact atxPrefix_ne_t (c.frame.bits, p0) (e ▸ by simp)
    by_cases ht : c.sendtwice = true <;> by_cases hb : c.frame.bits = 16 <;> simp [ht, hb, hp]

theorem hexVal_lt (c v : Nat) (h : Atx.hexVal? c = some v) : v < 16 := by
  unfold Atx.hexVal? at h
  grind

theorem atx_decode_J (c1 c2 hi lo : Nat) (h1 : Atx.hexVal? c1 = some hi) (h2 : Atx.hexVal? c2 = some lo) :
    Atx.decode [74, c1, c2, 10] = .backward (hi * 16 + lo) ∧ Atx.decode [74, c1, c2] = .backward (hi * 16 + lo) := by
  have := hexVal_lt _ _ h1
  have := hexVal_lt _ _ h2
  have hv : hi * 16 + lo < 256 := by omega
  constructor
  · simp only [Atx.decode]
    simp [h1, h2, hv]
  · by_cases h10 : c2 = 10
    · subst h10; simp [Atx.hexVal?] at h2
    · simp only [Atx.decode]
      simp [h1, h2, hv, h10]

theorem atx_decode_other (letter : Nat) (rest : List Nat) (h : letter ≠ 74) : Atx.decode (letter :: rest) = .none := by
  unfold Atx.decode
  split
  · rename_i heq; injection heq with h1 _; exact absurd h1 h
  · rfl

/-- a report that answers the command: backward frame, framing error or "no frame" -/
def isResp : Meaning → Bool
  | .backward _ => true
  | .backwardError _ => true
  | .noAnswer => true
  | _ => false

theorem tridonicMeaning_cases (p : List Nat) :
    tridonicMeaning p = .ack ∨ tridonicMeaning p = .none ∨ (isResp (tridonicMeaning p) = true) := by
  unfold tridonicMeaning
  dsimp only
  repeat' split
  all_goals simp [isResp]

/-- one turn of the loop on a well-formed report, while the loop still waits: a confirmation is counted off, a
report that means nothing is skipped, an answer replaces the one held -/
theorem collect_cons (q : Bool) (o : Int) (resp : Option Meaning) (m : List Nat) (ms : List (List Nat))
    (hm : Tridonic.decode m = tridonicMeaning m) (hc : (o != 0 || resp.isNone) = true) :
    tridonicMeaning m = .ack ∧ Tridonic.collect q o resp (m :: ms) = Tridonic.collect q (o - 1) resp ms ∨
    tridonicMeaning m = .none ∧ Tridonic.collect q o resp (m :: ms) = Tridonic.collect q o resp ms ∨
    isResp (tridonicMeaning m) = true ∧
      Tridonic.collect q o resp (m :: ms) = Tridonic.collect q o (some (tridonicMeaning m)) ms := by
  rw [Tridonic.collect, if_pos hc, hm]
  rcases tridonicMeaning_cases m with ha | ha | ha
  · exact .inl ⟨ha, by rw [ha]⟩
  · exact .inr (.inl ⟨ha, by rw [ha]⟩)
  · refine .inr (.inr ⟨ha, ?_⟩)
    generalize tridonicMeaning m = x at ha
    cases x <;> first | rfl | cases ha

/-- The loop started with `o` confirmations outstanding and `resp` the answer seen so far: it keeps waiting while a
confirmation or the answer is missing, and returns the answer when the reports bring exactly the `o` confirmations
and, with `resp`, exactly one answer.  `o < 0` (a surplus confirmation) never returns to 0: the loop waits for ever. -/
theorem collect_spec (q : Bool) (msgs : List (List Nat)) (hwf : ∀ m ∈ msgs, Tridonic.decode m = tridonicMeaning m)
    (o : Int) (resp : Option Meaning) :
    (((msgs.map tridonicMeaning).count .ack < o ∨ o < 0 ∨
        resp.toList ++ (msgs.map tridonicMeaning).filter isResp = []) → Tridonic.collect q o resp msgs = none) ∧
    ∀ r, o = (msgs.map tridonicMeaning).count .ack → resp.toList ++ (msgs.map tridonicMeaning).filter isResp = [r] →
      Tridonic.collect q o resp msgs = some (if q then r else .none) := by
  induction msgs generalizing o resp with
  | nil =>
    rw [Tridonic.collect]
    cases resp <;> simp <;> omega
  | cons m ms ih =>
    rw [List.forall_mem_cons] at hwf
    replace ih := ih hwf.2
    rw [List.map_cons, List.count_cons, List.filter_cons]
    generalize (ms.map tridonicMeaning).count .ack = a at ih ⊢
    generalize (ms.map tridonicMeaning).filter isResp = rs at ih ⊢
    by_cases hc : (o != 0 || resp.isNone) = true
    · rcases collect_cons q o resp m ms hwf.1 hc with ⟨ha, e⟩ | ⟨ha, e⟩ | ⟨ha, e⟩ <;> rw [e, ha]
      · simp only [isResp, beq_self_eq_true, if_true, Bool.false_eq_true, if_false]
        exact ⟨fun h => (ih _ _).1 (h.imp (by omega) (Or.imp (by omega) id)),
          fun r ho hr => (ih _ _).2 r (by omega) hr⟩
      · simpa [isResp] using ih o resp
      · generalize tridonicMeaning m = x at ha ⊢
        have hna : x ≠ .ack := by rintro rfl; cases ha
        cases resp with
        | none => simpa [hna] using ih o (some x)
        | some y => simpa [hna] using (ih o (some x)).1
    · -- the loop has everything it waits for and stops
      rw [Tridonic.collect, if_neg hc]
      cases resp <;> simp at hc
      subst hc
      simp
      omega
theorem unipiPolls_length (fe : Nat) (feAt : Option Nat) (g : UnipiRx) (ev : List (Nat × Nat × Nat)) (i n : Nat) :
    (unipiPolls fe feAt g ev i n).length = n := by
  induction n generalizing g ev i with
  | zero => rfl
  | succ n ih => simp [unipiPolls, ih]

/-- polling from poll `i` on, a backward frame that arrives before poll `k`, `i ≤ k < i + n`, is taken: the polls
before it show the sampled counter, poll `k` shows the next one, which differs even when the register wraps -/
theorem pollLoop_unipiPolls (cmp : Bool) (fe k v : Nat) (hv : v < 256) (g : UnipiRx) :
    ∀ (n i : Nat), i ≤ k → k < i + n →
    Unipi.pollLoop cmp g.counter fe (unipiPolls fe none g [(k, 0x100, v)] i n) = .response (some v) := by
  have hne : g.counter ≠ (g.counter + 1) % 65536 := by omega
  intro n
  induction n with
  | zero => intro i h1 h2; omega
  | succ n ih =>
    intro i h1 h2
    by_cases hk : k ≤ i
    · simp [unipiPolls, hk, Unipi.pollLoop, Unipi.readReturning, UnipiRx.receive, Unipi.decode, hne, hv]
    · simp [unipiPolls, hk, Nat.lt_of_not_le hk, Unipi.pollLoop, Unipi.readReturning]
      exact ih (i + 1) (by omega) (by omega)

end DaliVerif.Proofs.WireEnc2
