import DaliVerif.Spec.Transactions
/-!
# C20 — the bus watcher against the declarative parser: helper lemmas

`BusWatch.run` (the state machine) is compared with `Spec.Transactions.parse` (the whole history read with one
item of look-ahead).  The hinge is `close` — how the item after a pending command ends its transaction —, on which
the parser (`parse_close`) and the watcher (`run_fwd_pending`) agree; `core` is then an induction on
the length of the history.
-/
namespace DaliVerif.Proofs.WatchRefine
open DaliVerif.BusWatch DaliVerif.Answer DaliVerif.Spec.Transactions

theorem run_nil (dec : Decode) (s : WatchState) : run dec s [] = (s, []) := rfl

theorem run_cons (dec : Decode) (s : WatchState) (e : WatchEvent) (es : List WatchEvent) :
    run dec s (e :: es) =
      ((run dec (step dec s e).1 es).1, (step dec s e).2 ++ (run dec (step dec s e).1 es).2) := rfl

@[simp] theorem decode_info (dec : Decode) (f : Fwd) (d : Nat) :
    (decode dec f d).info = dec f d := rfl
@[simp] theorem decode_frame (dec : Decode) (f : Fwd) (d : Nat) :
    (decode dec f d).frame = f := rfl
@[simp] theorem decode_dt (dec : Decode) (f : Fwd) (d : Nat) :
    (decode dec f d).dt = d := rfl

theorem step_other (dec : Decode) (s : WatchState) : step dec s (.pkt .other) = (s, []) := rfl

theorem step_idle_timeout (dec : Decode) (d : Nat) :
    step dec ⟨none, d⟩ .timeout = (⟨none, d⟩, []) := rfl

@[simp] theorem isOther_gap : isOther .gap = false := rfl
@[simp] theorem isOther_fwd (f : Fwd) : isOther (.pkt (.fwd f)) = false := rfl
@[simp] theorem isOther_back (b : Nat) : isOther (.pkt (.back b)) = false := rfl
@[simp] theorem isOther_backErr : isOther (.pkt .backErr) = false := rfl
@[simp] theorem isOther_noFrame : isOther (.pkt .noFrame) = false := rfl
@[simp] theorem isOther_other : isOther (.pkt .other) = true := rfl

theorem run_plain (dec : Decode) (d : Nat) (f : Fwd) (es : List WatchEvent)
    (h : needsMore (decode dec f d) = false) :
    run dec ⟨none, d⟩ (.pkt (.fwd f) :: es) =
      ((run dec ⟨none, dtAfter (decode dec f d)⟩ es).1,
        ⟨decode dec f d, none, false⟩ :: (run dec ⟨none, dtAfter (decode dec f d)⟩ es).2) := by
  simp [run_cons, step, fresh, h]

theorem run_wait (dec : Decode) (d : Nat) (f : Fwd) (es : List WatchEvent)
    (h : needsMore (decode dec f d) = true) :
    run dec ⟨none, d⟩ (.pkt (.fwd f) :: es) =
      run dec ⟨some (decode dec f d), dtAfter (decode dec f d)⟩ es := by
  simp [run_cons, step, fresh, h]

theorem run_idle_timeout (dec : Decode) (d : Nat) (es : List WatchEvent) :
    run dec ⟨none, d⟩ (.timeout :: es) = run dec ⟨none, d⟩ es := rfl

theorem run_idle_nonfwd (dec : Decode) (d : Nat) (p : Pkt) (es : List WatchEvent)
    (h : ∀ f, p ≠ .fwd f) :
    run dec ⟨none, d⟩ (.pkt p :: es) = run dec ⟨none, d⟩ es := by
  cases p <;> first | rfl | exact absurd rfl (h _)

/-- How the item after a pending command closes it: the transaction, and whether the item
belongs to it (a forward frame that is not the awaited repeat starts the next one). -/
def close (c : Cmd) (x : Item) : Txn × Bool :=
  if c.info.twice then
    match x with
    | .gap => (.twiceFail c .late, true)
    | .pkt (.fwd g) => if g = c.frame then (.twiceGood c, true) else (.twiceFail c .different, false)
    | .pkt .noFrame => (.twiceFail c .noFrame, true)
    | .pkt _ => (.twiceFail c .answered, true)
  else
    match x with
    | .pkt (.fwd _) => (.query c .silent, false)
    | .pkt (.back b) => (.query c (.value b), true)
    | .pkt .backErr => (.query c (.framing 255), true)
    | _ => (.query c .silent, true)

theorem reportOf_close (c : Cmd) (x : Item) : ∃ rep, reportOf (close c x).1 = some rep := by
  unfold close
  split <;> split <;> first | exact ⟨_, rfl⟩ | (split <;> exact ⟨_, rfl⟩)

theorem parse_plain (dec : Decode) (dt : Nat) (f : Fwd) (r : List Item)
    (h : needsMore (decode dec f dt) = false) :
    parse dec dt (.pkt (.fwd f) :: r) =
      .plain (decode dec f dt) :: parse dec (dtAfter (decode dec f dt)) r := by
  rw [parse.eq_def]
  simp_all [needsMore]

theorem parse_stray (dec : Decode) (dt : Nat) (p : Pkt) (r : List Item) (hp : ∀ f, p ≠ .fwd f) :
    parse dec dt (.pkt p :: r) = .stray p :: parse dec dt r := by
  rw [parse.eq_def]
  cases p <;> first | exact absurd rfl (hp _) | simp

theorem parse_close (dec : Decode) (dt : Nat) (f : Fwd) (x : Item) (r : List Item)
    (h : needsMore (decode dec f dt) = true) :
    parse dec dt (.pkt (.fwd f) :: x :: r) =
      (close (decode dec f dt) x).1 ::
        parse dec (dtAfter (decode dec f dt)) (if (close (decode dec f dt) x).2 then r else x :: r) := by
  rw [parse.eq_def]
  by_cases ht : (dec f dt).twice = true
  · cases x with
    | gap => simp [close, ht]
    | pkt p =>
      cases p with
      | fwd g => by_cases hg : g = f <;> simp [close, ht, hg]
      | _ => simp [close, ht]
  · have hr : (dec f dt).resp.isSome = true := by simpa [needsMore, ht] using h
    cases x with
    | gap => simp [close, ht, hr]
    | pkt p => cases p <;> simp [close, ht, hr]

/-- A command that has to wait, and the item after it: the watcher reports the transaction that
`close` names and goes on, idle, with the rest.  The statements about a query or a send-twice
command followed by a particular item are its instances. -/
theorem run_fwd_pending (dec : Decode) (d : Nat) (f : Fwd) (x : Item) (r : List Item)
    (h : needsMore (decode dec f d) = true) (hx : isOther x = false) :
    (run dec ⟨none, d⟩ (events (.pkt (.fwd f) :: x :: r))).2 =
      (reportOf (close (decode dec f d) x).1).toList ++
        (run dec ⟨none, dtAfter (decode dec f d)⟩
          (events (if (close (decode dec f d) x).2 then r else x :: r))).2 := by
  rw [events, run_wait dec d f _ h]
  generalize decode dec f d = c at h ⊢
  by_cases ht : c.info.twice = true
  · cases x with
    | gap => simp [events, run_cons, step, close, ht, reportOf]
    | pkt p =>
      cases p with
      | fwd g =>
        by_cases hg : c.frame = g <;>
          simp [events, run_cons, step, close, ht, hg, @eq_comm _ g c.frame, reportOf]
      | other => cases hx
      | _ => simp [events, run_cons, step, close, ht, reportOf]
  · have hr : c.info.resp.isSome = true := by simpa [needsMore, ht] using h
    cases x with
    | gap => simp [events, run_cons, step, close, ht, hr, reportOf]
    | pkt p =>
      cases p with
      | other => cases hx
      | _ => simp [events, run_cons, step, close, ht, hr, reportOf]

def NoOther (l : List Item) : Prop := ∀ i ∈ l, isOther i = false

theorem NoOther.tail {i : Item} {l : List Item} (h : NoOther (i :: l)) : NoOther l :=
  fun j hj => h j (List.mem_cons_of_mem _ hj)

theorem NoOther.head {i : Item} {l : List Item} (h : NoOther (i :: l)) : isOther i = false :=
  h i (List.mem_cons_self ..)

theorem core (dec : Decode) (dt : Nat) (l : List Item) (hno : NoOther l) :
    (run dec ⟨none, dt⟩ (events l)).2 = (parse dec dt l).filterMap reportOf := by
  generalize hn : l.length = n
  induction n using Nat.strongRecOn generalizing dt l with
  | _ n ih =>
    subst hn
    match l with
    | [] => simp [parse, events, run_nil]
    | .gap :: r =>
      rw [parse, events, run_idle_timeout]
      exact ih _ (Nat.lt_succ_self _) _ _ hno.tail rfl
    | .pkt p :: r =>
      by_cases hp : ∀ f, p ≠ .fwd f
      · rw [parse_stray dec dt p r hp, events, run_idle_nonfwd dec dt p _ hp, List.filterMap_cons_none rfl]
        exact ih _ (Nat.lt_succ_self _) _ _ hno.tail rfl
      · obtain ⟨f, rfl⟩ : ∃ f, p = .fwd f := by
          cases p <;> first | exact ⟨_, rfl⟩ | exact absurd nofun hp
        cases hm : needsMore (decode dec f dt) with
        | false =>
          rw [parse_plain dec dt f r hm, events, run_plain dec dt f _ hm]
          simp only [List.filterMap_cons, reportOf]
          congr 1
          exact ih _ (Nat.lt_succ_self _) _ _ hno.tail rfl
        | true =>
          match r with
          | [] =>
            rw [events, run_wait dec dt f _ hm]
            rcases Bool.or_eq_true_iff.mp hm with h | h <;> simp_all [parse, events, run_nil, reportOf]
          | x :: r' =>
            rw [run_fwd_pending dec dt f x r' hm hno.tail.head, parse_close dec dt f x r' hm]
            obtain ⟨rep, hrep⟩ := reportOf_close (decode dec f dt) x
            rw [List.filterMap_cons_some hrep, hrep, Option.toList_some, List.singleton_append]
            congr 1
            split
            · exact ih _ (by simp; omega) _ _ hno.tail.tail rfl
            · exact ih _ (by simp) _ _ hno.tail rfl

theorem events_append (a b : List Item) : events (a ++ b) = events a ++ events b := by
  induction a with
  | nil => rfl
  | cons i a ih => cases i <;> simp [events, ih]

theorem run_append (dec : Decode) (s : WatchState) (a b : List WatchEvent) :
    run dec s (a ++ b) =
      ((run dec (run dec s a).1 b).1, (run dec s a).2 ++ (run dec (run dec s a).1 b).2) := by
  induction a generalizing s with
  | nil => simp [run_nil]
  | cons e a ih => simp [run_cons, ih]

theorem run_filter_other (dec : Decode) (s : WatchState) (h : List Item) :
    run dec s (events h) = run dec s (events (h.filter (fun i => !isOther i))) := by
  induction h generalizing s with
  | nil => rfl
  | cons i h ih =>
    cases i with
    | gap => simp [events, run_cons, ih]
    | pkt p =>
      cases p <;> simp [events, run_cons, ih, step_other]

theorem noOther_filter (h : List Item) : NoOther (h.filter (fun i => !isOther i)) := by
  intro i hi
  simpa using (List.mem_filter.mp hi).2

theorem fwdFrames_filter_other (h : List Item) :
    fwdFrames (h.filter (fun i => !isOther i)) = fwdFrames h := by
  induction h with
  | nil => rfl
  | cons i h ih =>
    cases i with
    | gap => simp [fwdFrames, ih]
    | pkt p => cases p <;> simp [fwdFrames, ih]

theorem parse_frames (dec : Decode) (dt : Nat) (l : List Item) :
    (parse dec dt l).flatMap framesOf = fwdFrames l := by
  fun_induction parse dec dt l <;> simp_all [fwdFrames, framesOf] <;> try rfl

theorem parse_dtChain (dec : Decode) (dt : Nat) (l : List Item) :
    DtChain dec dt (parse dec dt l) := by
  fun_induction parse dec dt l <;> simp [*, DtChain, cmdOf] <;> exact ⟨rfl, rfl⟩

end DaliVerif.Proofs.WatchRefine
