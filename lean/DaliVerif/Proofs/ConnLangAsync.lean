import DaliVerif.Proofs.ConnLang
import DaliVerif.Proofs.AsyncRun
/-!
# The connection machine inside the interleaving model (C17)

Every schedule of `Model/Async.lean` projects to a run of `Model/Conn.lean` (callers never
touch the connection state), so the invariant `CInv` of `Proofs/ConnLang.lean` holds in every
reachable state of the interleaving model.
-/
namespace DaliVerif.Async
open DaliVerif.Conn

def envOf : List Label → List Conn.Ev
  | [] => []
  | .env e :: ls => e :: envOf ls
  | _ :: ls => envOf ls

theorem step_env_conn {s s' : St} {e : Conn.Ev} (h : step? s (.env e) = some s') :
    Conn.step s.conn e = some s'.conn := by
  obtain ⟨c', hc, ⟨-, rfl⟩ | ⟨-, rfl⟩⟩ := step?_env h <;> exact hc

theorem step_other_conn {s s' : St} {l : Label} (hl : ∀ e, l ≠ .env e) (h : step? s l = some s') :
    s'.conn = s.conn := by
  cases l with
  | spawn tk => cases h; rfl
  | act t =>
    obtain ⟨_, _, _, hs⟩ := actStep_cases h
    exact hs.conn
  | raise t e => obtain ⟨_, _, _, -, -, -, ⟨rfl, -⟩ | ⟨_, -, -, -, rfl⟩⟩ := raiseStep_cases h <;> rfl
  | deliver tag m => obtain ⟨_, rfl⟩ := step?_deliver h; rfl
  | env e => exact absurd rfl (hl e)

theorem run_conn {s s' : St} {ls : List Label} (h : run? s ls = some s') :
    Conn.run Conn.step s.conn (envOf ls) = some s'.conn := by
  induction ls generalizing s with
  | nil => cases h; rfl
  | cons l ls ih =>
    obtain ⟨s1, hs, hr⟩ := run?_cons.mp h
    cases l with
    | env e => simp only [envOf, Conn.run, step_env_conn hs]; exact ih hr
    | _ => rw [← step_other_conn (fun _ he => by cases he) hs]; exact ih hr

/-- conversely, a run of the connection machine without a loss is a schedule that touches nothing but the
connection (a loss also empties the table of outstanding commands) -/
theorem run_env {s : St} {es : List Conn.Ev} {c : Conn} (hes : .lose ∉ es)
    (h : Conn.run Conn.step s.conn es = some c) : run? s (es.map .env) = some { s with conn := c } := by
  induction es generalizing s with
  | nil => cases h; rfl
  | cons e es ih =>
    simp only [Conn.run] at h
    cases hs : Conn.step s.conn e with
    | none => simp [hs] at h
    | some c1 =>
      rw [hs] at h
      have hne : e ≠ .lose := fun he => hes (he ▸ List.mem_cons_self)
      simp only [List.map_cons, run?, step?, hs, if_neg hne]
      exact ih (s := { s with conn := c1 }) (fun hm => hes (List.mem_cons_of_mem _ hm)) h

theorem reachable_conn {s0 s : St} {ls : List Label} (hc : s0.conn.fresh) (h : run? s0 ls = some s) :
    Conn.Reachable s.conn := ⟨s0.conn, envOf ls, hc, run_conn h⟩

theorem conn_CInv {s0 s : St} {ls : List Label} (hc : s0.conn.fresh) (h : run? s0 ls = some s) :
    CInv s.conn := Conn.reachable_CInv (reachable_conn hc h)

end DaliVerif.Async
