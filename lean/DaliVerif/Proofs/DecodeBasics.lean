import DaliVerif.Proofs.Address
import DaliVerif.Proofs.Instance
import DaliVerif.Model.Decode
/-!
# Helper lemmas for C01/C02/C12: frame-building steps in arithmetic form

The constructors assemble a frame by successive writes into a fresh `ForwardFrame`.  A write into a
field that still holds zero *adds* its value (`setSlice_add`, `setBit_add`), so the assembled frame is
a sum of shifted fields and the codec proofs are linear arithmetic over single `/ 2^k % 2^j` read-backs.
-/
set_option linter.unusedSimpArgs false

namespace DaliVerif

theorem pairwise_mem {α} {R : α → α → Prop} (hs : ∀ a b, R a b → R b a) {l : List α}
    (h : l.Pairwise R) {a b : α} (ha : a ∈ l) (hb : b ∈ l) (hne : a ≠ b) : R a b :=
  List.Pairwise.forall_of_forall_of_flip (R := fun x y => x ≠ y → R x y) (fun _ _ h => absurd rfl h)
    (h.imp (S := fun x y => x ≠ y → R x y) fun h _ => h)
    (h.imp (S := fun x y => y ≠ x → R y x) fun h _ => hs _ _ h) ha hb hne

theorem or3 (c p : Nat) (hc : c < 256) (hp : p < 16) (hm : c % 16 = 0 ∨ p = 0) :
    0x100 ||| c ||| p = 256 + c + p := by
  rw [or_eq_add 8 0x100 (by decide) hc]
  rcases hm with hm | rfl
  · exact or_eq_add 4 _ (Nat.dvd_of_mod_eq_zero (by omega)) hp
  · exact Nat.or_zero _

theorem shl1_or1 (a : Nat) : (a <<< 1) ||| 1 = 2 * a + 1 := by
  rw [shiftLeft_or a (i := 1) (by decide)]; omega

theorem and_15 (x : Nat) : x &&& 0x0f = x % 16 :=
  Nat.and_two_pow_sub_one_eq_mod x 4

end DaliVerif

namespace DaliVerif.Frame

theorem setSliceA_of_zero {d hi lo : Nat} (v : Nat) (hlo : lo ≤ hi)
    (h0 : d / 2 ^ lo % 2 ^ (hi + 1 - lo) = 0) : setSliceA d hi lo v = d + 2 ^ lo * v := by
  have hp : 2 ^ (hi + 1) = 2 ^ lo * 2 ^ (hi + 1 - lo) := by rw [← Nat.pow_add]; congr 1; omega
  have h1 := Nat.div_add_mod d (2 ^ lo)
  have h2 := Nat.div_add_mod (d / 2 ^ lo) (2 ^ (hi + 1 - lo))
  rw [h0, Nat.add_zero, Nat.div_div_eq_div_mul, ← hp] at h2
  unfold setSliceA
  rw [Nat.mul_add, h2]
  omega

end DaliVerif.Frame

namespace DaliVerif.Addr
open Frame Spec

theorem gearPartition_some {b : Nat} {a : Addr} (h : gearPartition b = some a) :
    a.Valid ∧ a.isGear = true ∧ addrByte a = b := by
  unfold gearPartition at h
  cases a <;> grind [Valid, isGear, addrByte]

theorem devicePartition_some {c : Bool} {b : Nat} {a : Addr} (h : devicePartition c b = some a) :
    c = true ∧ a.Valid ∧ a.isGear = false ∧ addrByte a = b := by
  unfold devicePartition at h
  cases a <;> grind [Valid, isGear, addrByte]

theorem fromFrame_gear_iff (order : List AddrKind) (hok : OrderOK order) (d : Nat) (a : Addr) :
    fromFrame order ⟨16, d⟩ = some a ↔ a.Valid ∧ a.isGear = true ∧ addrByte a = d / 512 % 128 := by
  rw [fromFrame_eq_partition order hok]
  simp only [partition, if_true]
  exact ⟨gearPartition_some, fun ⟨hv, hg, hb⟩ => hb ▸ gearPartition_addrByte a hv hg⟩

/-- bit 16 set marks a 24-bit command frame (clear: an event message, which has no address object) -/
theorem fromFrame_device_iff (order : List AddrKind) (hok : OrderOK order) (d : Nat) (a : Addr) :
    fromFrame order ⟨24, d⟩ = some a ↔
      d / 65536 % 2 = 1 ∧ a.Valid ∧ a.isGear = false ∧ addrByte a = d / 131072 % 128 := by
  rw [fromFrame_eq_partition order hok]
  simp only [partition, Nat.reduceEqDiff, if_false, if_true]
  refine ⟨fun h => ?_, fun ⟨h16, hv, hg, hb⟩ => by rw [h16, ← hb]; exact devicePartition_addrByte a hv hg⟩
  obtain ⟨hc, h⟩ := devicePartition_some h
  exact ⟨by simpa using hc, h⟩

end DaliVerif.Addr

namespace DaliVerif.Cmd
open Frame Spec

theorem lookup_mem {α β} [BEq α] [LawfulBEq α] {l : List (α × β)} {k : α} {v : β}
    (h : lookup l k = some v) : (k, v) ∈ l := by
  unfold lookup at h
  cases hf : l.find? (fun e => e.1 == k) with
  | none => simp [hf] at h
  | some e =>
    simp only [hf, Option.map_some, Option.some.injEq] at h
    have hm := List.mem_of_find?_eq_some hf
    have hp := List.find?_some hf
    have : e.1 = k := by simpa using hp
    rw [← this, ← h]; exact hm

theorem newFrame_ok (bits data : Nat) (hb : 1 ≤ bits) (hd : data < 2 ^ bits) :
    newFrame bits data = .ok ⟨bits, data⟩ := by
  unfold newFrame natVal Frame.new
  have hb' : ¬ ((bits : Int) < 1) := by omega
  have hbl : ¬ (bitLength (data : Int) > (bits : Int).toNat) := by
    have := (bitLength_le_iff data bits).mpr hd
    simp; omega
  simp only [Int.toNat_natCast] at hbl
  have hneg : ¬ ((data : Int) < 0) := by omega
  simp only [PyVal.asInt?, hb', if_false, hneg, hbl, Int.toNat_natCast]

/-- `ForwardFrame(bits, (b0, b1, …))` from bytes -/
theorem newFrame_bytes (n : Nat) (l : List Nat) (hn : 1 ≤ n) (hl : ∀ b ∈ l, b < 256)
    (hfit : ofBytesBE l < 2 ^ n) :
    Frame.new (natVal n) (.ints (l.map Nat.cast)) = .ok ⟨n, ofBytesBE l⟩ := by
  have hall : ((l.map Nat.cast).all fun x : Int => decide (0 ≤ x) && decide (x < 256)) = true := by
    simp only [List.all_map, List.all_eq_true, Function.comp]
    intro b hb; have := hl b hb; simp; omega
  have hmap : (l.map (Nat.cast : Nat → Int)).map Int.toNat = l := by
    simp [List.map_map, Function.comp_def]
  have hn' : ¬ ((n : Int) < 1) := by omega
  have hbl : ¬ (bitLength ((ofBytesBE l : Nat) : Int) > n) := by
    have := (bitLength_le_iff (ofBytesBE l) n).mpr hfit; omega
  have hneg : ¬ (((ofBytesBE l : Nat) : Int) < 0) := by omega
  simp only [Frame.new, natVal, PyVal.asInt?, hn', if_false, hall, if_true, hmap,
    Int.ofNat_eq_natCast, hneg, Int.toNat_natCast, hbl]

theorem newFrame_bytes2 (a b : Nat) (ha : a < 256) (hb : b < 256) :
    Frame.new (natVal 16) (.ints [(a : Int), (b : Int)]) = .ok ⟨16, a * 256 + b⟩ := by
  have h := newFrame_bytes 16 [a, b] (by decide) (by simp; omega)
  simp only [ofBytesBE, List.foldl, Nat.zero_mul, Nat.zero_add] at h
  exact h (by omega)

theorem newFrame_bytes3 (a b c : Nat) (ha : a < 256) (hb : b < 256) (hc : c < 256) :
    Frame.new (natVal 24) (.ints [(a : Int), (b : Int), (c : Int)]) =
      .ok ⟨24, (a * 256 + b) * 256 + c⟩ := by
  have h := newFrame_bytes 24 [a, b, c] (by decide) (by simp; omega)
  simp only [ofBytesBE, List.foldl, Nat.zero_mul, Nat.zero_add] at h
  exact h (by omega)

theorem rangeCheck_ok (v limit : Nat) (h : v ≤ limit) : rangeCheck (v : Int) limit = .ok () := by
  unfold rangeCheck
  have : ¬ ((v : Int) < 0 ∨ (v : Int) > limit) := by omega
  simp [this, h]

theorem setSlice_eq (f : Frame) (hi lo : Nat) (v : Int) (hlo : lo ≤ hi) (hhi : hi < f.bits) :
    setSlice f hi lo v =
      if 0 ≤ v ∧ v < (2 ^ (hi + 1 - lo) : Int) then .ok ⟨f.bits, setSliceRaw f.bits f.data hi lo v.toNat⟩
      else .error .ValueError := by
  have hrs : f.readSlice (.int hi) (.int lo) .none = .ok (hi, lo) := by
    rw [readSlice_eq]
    simp only [Bits.sliceOf, PyVal.asInt?]
    have h1 : (0 : Int) ≤ hi ∧ (hi : Int) < f.bits ∧ (0 : Int) ≤ lo ∧ (lo : Int) < f.bits := by omega
    simp [h1]
    omega
  simp only [setSlice, natVal, Frame.setItem, hrs, bind, Except.bind, PyVal.asInt?, ← value_checks]
  by_cases c1 : bitLength v > hi + 1 - lo <;> by_cases c2 : v < 0 <;> simp [c1, c2, pure, Except.pure]

theorem setSlice_ok (f : Frame) (hi lo v : Nat) (hlo : lo ≤ hi) (hhi : hi < f.bits)
    (hd : f.data < 2 ^ f.bits) (hv : v < 2 ^ (hi + 1 - lo)) :
    setSlice f hi lo v = .ok ⟨f.bits, setSliceA f.data hi lo v⟩ := by
  rw [setSlice_eq f hi lo v hlo hhi, if_pos ⟨Int.natCast_nonneg _, by exact_mod_cast hv⟩, Int.toNat_natCast,
    setSliceRaw_eqA f.bits f.data hi lo v hlo hhi hd hv]

/-- the one hypothesis collects what `omega` settles for a frame given as a sum of fields -/
theorem setSlice_add (bits d hi lo v : Nat)
    (h : lo ≤ hi ∧ hi < bits ∧ d < 2 ^ bits ∧ v < 2 ^ (hi + 1 - lo) ∧
      d / 2 ^ lo % 2 ^ (hi + 1 - lo) = 0) :
    setSlice ⟨bits, d⟩ hi lo v = .ok ⟨bits, d + 2 ^ lo * v⟩ := by
  rw [setSlice_ok ⟨bits, d⟩ hi lo v h.1 h.2.1 h.2.2.1 h.2.2.2.1, setSliceA_of_zero v h.1 h.2.2.2.2]

/-- `f[k] = v` stores the truth value of `v`, whatever Python value it is -/
theorem setItemIdx_add (bits d k : Nat) (v : PyVal) (h : k < bits ∧ d < 2 ^ bits ∧ d / 2 ^ k % 2 = 0) :
    (⟨bits, d⟩ : Frame).setItem (.idx (natVal k)) v = .ok ⟨bits, d + 2 ^ k * v.truthy.toNat⟩ := by
  have hk : ¬ ((k : Int) < 0 ∨ bits ≤ k) := by omega
  have hw : k + 1 - k = 1 := Nat.add_sub_cancel_left k 1
  have hv : v.truthy.toNat < 2 ^ (k + 1 - k) := by rw [hw]; cases v.truthy <;> decide
  have e : (if v.truthy = true then 1 else 0) = v.truthy.toNat := by cases v.truthy <;> rfl
  simp only [Frame.setItem, natVal, PyVal.asInt?, Int.toNat_natCast, Bool.or_eq_true, decide_eq_true_eq,
    ge_iff_le, Int.ofNat_le, hk, if_false]
  rw [setBitRaw_eq_setSlice bits d k _ h.1 h.2.1, e, setSliceRaw_eqA bits d k k _ (Nat.le_refl k) h.1 h.2.1 hv,
    setSliceA_of_zero _ (Nat.le_refl k) (by rw [hw]; exact h.2.2)]

theorem setBit_add (bits d k : Nat) (b : Bool) (h : k < bits ∧ d < 2 ^ bits ∧ d / 2 ^ k % 2 = 0) :
    setBit ⟨bits, d⟩ k b = .ok ⟨bits, d + 2 ^ k * b.toNat⟩ :=
  setItemIdx_add bits d k (.bool b) h

end DaliVerif.Cmd
