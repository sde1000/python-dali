import DaliVerif.Model.Wire
import DaliVerif.Spec.Gateways
import DaliVerif.Proofs.Bits
/-!
# C18: formats by width and the arithmetic of their packets

Every format in `Spec.Gateways` lists one packet per width the gateway carries: facts about a format are read
off the listed packets (`of_…_widths`), and the encoders are compared with it width by width (`Props/C18`).
Then what those packets are made of, whatever the gateway: the big-endian bytes of an 8/16/24/25-bit frame, bit fields
packed by shift and or, xor checksums.
-/
namespace DaliVerif.Proofs.WireEnc
open DaliVerif Wire Spec.Gateways Gen.DriverConsts

/-- model answer expected from a format entry: the packet, or the refusal -/
def expect {α} (e : PyErr) : Option α → PyRes α
  | some p => .ok p
  | none => .error e

theorem expect_ok {α} {e : PyErr} {o : Option α} {p : α} (h : expect e o = .ok p) : o = some p := by
  cases o with
  | none => cases h
  | some q => injection h with h; rw [h]

theorem of_one_width {α} {b w : Nat} {x p : α} (h : (if b = w then some x else none) = some p) :
    b = w ∧ x = p := by
  split at h
  · exact ⟨‹_›, Option.some.inj h⟩
  · cases h

theorem of_two_widths {α} {b w₁ w₂ : Nat} {x₁ x₂ p : α}
    (h : (if b = w₁ then some x₁ else if b = w₂ then some x₂ else none) = some p) :
    b = w₁ ∧ x₁ = p ∨ b = w₂ ∧ x₂ = p := by
  split at h
  · exact .inl ⟨‹_›, Option.some.inj h⟩
  · exact .inr (of_one_width h)

theorem of_three_widths {α} {b w₁ w₂ w₃ : Nat} {x₁ x₂ x₃ p : α}
    (h : (if b = w₁ then some x₁ else if b = w₂ then some x₂ else if b = w₃ then some x₃ else none) = some p) :
    b = w₁ ∧ x₁ = p ∨ b = w₂ ∧ x₂ = p ∨ b = w₃ ∧ x₃ = p := by
  split at h
  · exact .inl ⟨‹_›, Option.some.inj h⟩
  · exact .inr (of_two_widths h)

theorem toBytesBE_two (d : Nat) : Frame.toBytesBE d 2 = [d / 256 % 256, d % 256] := rfl

theorem toBytesBE_three (d : Nat) : Frame.toBytesBE d 3 = [d / 65536 % 256, d / 256 % 256, d % 256] := by
  rw [Frame.toBytesBE, toBytesBE_two, Nat.div_div_eq_div_mul]; rfl

theorem toBytesBE_four (d : Nat) :
    Frame.toBytesBE d 4 = [d / 16777216 % 256, d / 65536 % 256, d / 256 % 256, d % 256] := by
  rw [Frame.toBytesBE, toBytesBE_three, Nat.div_div_eq_div_mul, Nat.div_div_eq_div_mul]; rfl

theorem ofBytesBE_one {d : Nat} (h : d < 2 ^ 8) : Frame.ofBytesBE [d % 256] = d :=
  (Frame.ofBytesBE_toBytesBE d 1).trans (Nat.mod_eq_of_lt h)

theorem ofBytesBE_two {d : Nat} (h : d < 2 ^ 16) : Frame.ofBytesBE [d / 256 % 256, d % 256] = d :=
  (Frame.ofBytesBE_toBytesBE d 2).trans (Nat.mod_eq_of_lt h)

theorem ofBytesBE_three {d : Nat} (h : d < 2 ^ 24) :
    Frame.ofBytesBE [d / 65536 % 256, d / 256 % 256, d % 256] = d := by
  rw [← toBytesBE_three, Frame.ofBytesBE_toBytesBE]; exact Nat.mod_eq_of_lt h

theorem ofBytesBE_zero_cons (l : List Nat) : Frame.ofBytesBE (0 :: l) = Frame.ofBytesBE l := by
  simp [Frame.ofBytesBE]

theorem ofBytesBE_pair (a b : Nat) : Frame.ofBytesBE [a, b] = a * 256 + b := by simp [Frame.ofBytesBE]

theorem bytesOf8 (d : Nat) : bytesOf ⟨8, d⟩ = [d % 256] := by simp [bytesOf]; rfl

theorem bytesOf16 (d : Nat) : bytesOf ⟨16, d⟩ = [d / 256 % 256, d % 256] := by simp [bytesOf, toBytesBE_two]

theorem bytesOf24 (d : Nat) : bytesOf ⟨24, d⟩ = [d / 65536 % 256, d / 256 % 256, d % 256] := by
  simp [bytesOf, toBytesBE_three]

theorem bytesOf25 (d : Nat) :
    bytesOf ⟨25, d⟩ = [d / 16777216 % 256, d / 65536 % 256, d / 256 % 256, d % 256] := by
  simp [bytesOf, toBytesBE_four]

theorem shiftRight_field (a : Nat) {b : Nat} (hb : b < 256) : (a * 256 + b) >>> 8 = a := by
  rw [Nat.shiftRight_eq_div_pow]; omega

/-- the send-twice bit (bit 7) and the priority field of the LUBA mode byte do not overlap -/
theorem or_twice {p : Nat} (hp : p < 128) (tw : Bool) :
    p ||| (if tw then 128 else 0) = p + (if tw then 128 else 0) := by
  cases tw
  · simp
  · exact (Nat.or_comm ..).trans ((shiftLeft_or 1 (i := 7) hp).trans (Nat.add_comm ..))

theorem and128 (prio : Nat) (h : prio < 128) : (prio + 128) &&& 128 = 128 ∧ prio &&& 128 = 0 :=
  ⟨(and_two_pow _ 7).trans (by omega), (and_two_pow _ 7).trans (by omega)⟩

theorem xorAll4 (a b c d : Nat) : xorAll [a, b, c, d] = a ^^^ b ^^^ c ^^^ d := by
  show (((0 ^^^ a) ^^^ b) ^^^ c) ^^^ d = _
  rw [Nat.zero_xor]

theorem xorAll9 (a b c d e f g h i : Nat) :
    xorAll [a, b, c, d, e, f, g, h, i] = a ^^^ b ^^^ c ^^^ d ^^^ e ^^^ f ^^^ g ^^^ h ^^^ i := by
  show ((((((((0 ^^^ a) ^^^ b) ^^^ c) ^^^ d) ^^^ e) ^^^ f) ^^^ g) ^^^ h) ^^^ i = _
  rw [Nat.zero_xor]

/-- a body followed by its own xor sums to zero: what both gateways check -/
theorem foldr_xor_append_xorAll (l : List Nat) : (l ++ [xorAll l]).foldr (· ^^^ ·) 0 = 0 := by
  rw [List.foldr_eq_foldl, List.foldl_append]
  exact Nat.xor_self _

/-- `body = cmd :: len :: payload` with `payload.length = len`: the length byte counts neither 'Y', the command, itself
nor the checksum (the `+ 4` of `lubaCheck`) -/
theorem lubaCheck_of_body (body : List Nat) (h : body.length + 2 = body.getD 1 0 + 4) :
    lubaCheck ([0x59] ++ body ++ [xorAll body]) = true := by
  obtain ⟨a, b, r, rfl⟩ : ∃ a b r, body = a :: b :: r := by
    rcases body with _ | ⟨a, _ | ⟨b, r⟩⟩
    · simp at h
    · simp at h
    · exact ⟨a, b, r, rfl⟩
  have hx := foldr_xor_append_xorAll (a :: b :: r)
  simp only [List.length_cons, List.getD_cons_succ, List.getD_cons_zero] at h
  simp only [List.cons_append, List.nil_append] at hx ⊢
  simp [lubaCheck, hx, h]

theorem sciCheck_of_body (body : List Nat) (h : body.length = 4) :
    sciCheck (body ++ [xorAll body]) = true := by
  have hx := foldr_xor_append_xorAll body
  simp [sciCheck, hx, h]

end DaliVerif.Proofs.WireEnc
