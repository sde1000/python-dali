import DaliVerif.Proofs.FrameRefine
/-!
# Each operation of `Model/Frame.lean` over the reference's operand checks (for C05)

Python's order of checks (`isinstance`, sign, `bit_length`, index range) is shown equal to the documented rules
`indexOf` / `sliceOf` / `valueOf` of `Spec/Bits.lean`, and `getItem` / `setItem` are rewritten over them.  The
invariant `Inv` is established by the constructor and kept by `setItem`, the only operation that changes the
frame (`apply_ok`).
-/
namespace DaliVerif
open Spec Spec.Bits

namespace Frame

theorem new_inv {b d : PyVal} {f : Frame} (h : Frame.new b d = .ok f) : Inv f := by
  unfold Frame.new at h
  split at h
  · cases h
  · rename_i bi _
    -- whatever kind of `data` produced the integer, it passed the two value checks
    have hv := fun dv => (value_checks dv bi.toNat).mp
    grind [Inv, toNat_lt_two_pow]

theorem abs_length (f : Frame) : (abs f).length = f.bits := by simp [abs]

theorem abs_inj {f g : Frame} (hf : Inv f) (hg : Inv g) : abs f = abs g ↔ f = g := by
  refine ⟨fun h => ?_, fun h => h ▸ rfl⟩
  have hb : f.bits = g.bits := by simpa [abs] using congrArg List.length h
  cases f; cases g
  simp only at hb; subst hb
  exact congrArg _ (ofNat_inj hf.2 hg.2 h)

theorem readSlice_eq (f : Frame) (a b s : PyVal) :
    f.readSlice a b s = sliceOf f.bits a b s := by
  unfold readSlice sliceOf
  cases a.asInt? <;> cases b.asInt? <;> grind

theorem sliceOf_ok {w : Nat} {a b s : PyVal} {hi lo : Nat}
    (h : sliceOf w a b s = .ok (hi, lo)) : lo ≤ hi ∧ hi < w := by
  unfold sliceOf at h
  grind

theorem indexOf_ok {w : Nat} {k : PyVal} {i : Nat} (h : indexOf w k = .ok i) : i < w := by
  unfold indexOf at h
  grind

theorem valueOf_ok {n : Nat} {v : PyVal} {x : Nat} (h : valueOf n v = .ok x) : x < 2 ^ n := by
  unfold valueOf at h
  split at h
  · cases h
  · split at h
    · cases h; rename_i h; exact toNat_lt_two_pow h.2
    · cases h

/-- the model's index checks (`isinstance`, then the range) are `indexOf` -/
theorem index_checks {α} (w : Nat) (k : PyVal) (g : Nat → α) :
    (match k.asInt? with
      | some i => if i < 0 || i ≥ w then .error .IndexError else .ok (g i.toNat)
      | none => .error .TypeError) = (indexOf w k).map g := by
  unfold indexOf
  cases k.asInt? <;> grind [Except.map]

theorem valueOf_checks {α} (n : Nat) (v : PyVal) (g : Nat → PyRes α) :
    (match v.asInt? with
      | none => .error .TypeError
      | some x =>
        if bitLength x > n then .error .ValueError
        else if x < 0 then .error .ValueError
        else g x.toNat) = (valueOf n v).bind g := by
  unfold valueOf
  cases v.asInt? with
  | none => rfl
  | some x => have := value_checks x n; grind [Except.bind]

theorem getItem_idx (f : Frame) (k : PyVal) :
    f.getItem (.idx k) = (indexOf f.bits k).map fun i => .bit (f.data.testBit i) := by
  simp only [← getBitRaw_eq_testBit]
  exact index_checks f.bits k fun i => Item.bit (getBitRaw f.data i)

theorem setItem_idx (f : Frame) (k v : PyVal) :
    f.setItem (.idx k) v =
      (indexOf f.bits k).map fun i => { f with data := setBitRaw f.bits f.data i v.truthy } :=
  index_checks f.bits k fun i => ({ f with data := setBitRaw f.bits f.data i v.truthy } : Frame)

theorem setItem_slice (f : Frame) (a b s v : PyVal) :
    f.setItem (.slice a b s) v = (do
      let (hi, lo) ← sliceOf f.bits a b s
      let x ← valueOf (hi + 1 - lo) v
      pure { f with data := setSliceRaw f.bits f.data hi lo x }) := by
  simp only [setItem, readSlice_eq]
  congr 1; funext ⟨hi, lo⟩
  exact valueOf_checks (hi + 1 - lo) v fun x =>
    pure ({ f with data := setSliceRaw f.bits f.data hi lo x } : Frame)

theorem setItem_slice_nat (f : Frame) (hi lo v : Nat) (hlo : lo ≤ hi) (hhi : hi < f.bits)
    (hv : v < 2 ^ (hi + 1 - lo)) :
    f.setItem (.slice (.int hi) (.int lo) .none) (.int v) =
      .ok { f with data := setSliceRaw f.bits f.data hi lo v } := by
  have hs : sliceOf f.bits (.int hi) (.int lo) .none = .ok (hi, lo) := by
    have : max (hi : Int) lo = hi ∧ min (hi : Int) lo = lo := by omega
    simp [sliceOf, PyVal.asInt?, this, hhi, Nat.lt_of_le_of_lt hlo hhi]
  have hx : valueOf (hi + 1 - lo) (.int v) = .ok v := by
    have : (v : Int) < 2 ^ (hi + 1 - lo) := by exact_mod_cast hv
    simp [valueOf, PyVal.asInt?, this]
  rw [setItem_slice, hs]
  simp only [bind, Except.bind, hx]
  rfl

theorem setItem_inv {f f' : Frame} (hf : Inv f) {k : Key} {v : PyVal} (h : f.setItem k v = .ok f') :
    Inv f' ∧ f'.bits = f.bits := by
  cases k with
  | idx k =>
    rw [setItem_idx] at h
    cases hi : indexOf f.bits k with
    | error e => simp [hi, Except.map] at h
    | ok i =>
      simp only [hi, Except.map, Except.ok.injEq] at h; subst h
      exact ⟨⟨hf.1, setBitRaw_lt _ _ _ _ (indexOf_ok hi) hf.2⟩, rfl⟩
  | slice a b s =>
    rw [setItem_slice] at h
    cases hs : sliceOf f.bits a b s with
    | error e => simp [hs, bind, Except.bind] at h
    | ok p =>
      cases hx : valueOf (p.1 + 1 - p.2) v with
      | error e => simp [hs, hx, bind, Except.bind] at h
      | ok x =>
        simp only [hs, hx, bind, Except.bind, pure, Except.pure, Except.ok.injEq] at h; subst h
        have ⟨h1, h2⟩ := sliceOf_ok hs
        exact ⟨⟨hf.1, setSliceRaw_lt _ _ _ _ _ h1 h2 hf.2 (valueOf_ok hx)⟩, rfl⟩

theorem contains_bool {f : Frame} (hf : Inv f) (b : Bool) :
    f.contains (.bool b) = (abs f).contains b := by
  cases b
  · simp only [abs, contains_false_ofNat _ _ hf.2, Frame.contains, mask_eq]
  · simp only [abs, contains_true_ofNat _ _ hf.2, Frame.contains]

theorem eq_some (f g : Frame) : f.eq (some g) = decide (f = g) := by
  cases f; cases g; simp [Frame.eq]; grind

theorem apply_ok {f f' : Frame} {op : Op} {o : Out} (h : f.apply op = .ok (f', o)) :
    f' = f ∨ ∃ k v, f.setItem k v = .ok f' := by
  cases op <;> simp only [Frame.apply, bind, Except.bind, pure, Except.pure] at h <;> grind

end Frame
end DaliVerif
