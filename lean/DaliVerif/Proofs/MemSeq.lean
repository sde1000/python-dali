import DaliVerif.Model.MemSeq
import DaliVerif.Spec.MemUnit
import DaliVerif.Proofs.DevSeqProg
/-!
The memory sequences (`Model/MemSeq.lean`) run against the specification unit
(`Spec/MemUnit.lean`) and against any responder (`Prog.Out`): the unit one frame at a
time, then one lemma per loop, then the sequences around the loops.  Both loops start a
round with `loadDtr0`; what the optional load does is said once per kind of responder
(`run_loadDtr0`, `out_loadDtr0`), so each induction sees only the read or write itself.
-/
namespace DaliVerif.DevMem
open Prog

namespace Bank

theorem cellAt_stable (b : Bank) (hs : b.Stable) (t a : Nat) : b.cellAt t a = b.cellAt 0 a := by
  unfold cellAt; rw [hs t a]

theorem cellAt_zero (b : Bank) (t : Nat) : b.cellAt t 0 = some b.last := by
  simp [cellAt, readable, implemented, content]

theorem readCells_eq (b : Bank) (t : Nat) (locs : List Nat) :
    b.readCells t locs =
      if ∀ l ∈ locs, b.readable l = true then some (locs.map (b.content t)) else none := by
  induction locs with
  | nil => simp [readCells]
  | cons l ls ih =>
    simp only [readCells, ih, cellAt, List.forall_mem_cons]
    by_cases h : b.readable l = true
    · by_cases hs : ∀ l ∈ ls, b.readable l = true <;> simp [h, hs]
    · simp [h]

theorem store_lockCell (b : Bank) (t v : Nat) {a : Nat} (h : b.isLockCell a = true) :
    b.store t a v =
      { b with lockByte := v, snap := if b.hasLatch && v == 0xAA then some t else none } :=
  if_pos h

theorem store_lock (b : Bank) (t : Nat) {a v : Nat} (h : b.isLockCell a = true) (hv : v ≠ 0xAA) :
    b.store t a v = { b with lockByte := v, snap := none } := by
  rw [store_lockCell b t v h, beq_false_of_ne hv, Bool.and_false, if_neg Bool.false_ne_true]

theorem store_other (b : Bank) (t v : Nat) {a : Nat} (h : b.isLockCell a = false) :
    b.store t a v = { b with rw := fun x => if x = a then v else b.rw x } := by
  simp [store, h]

theorem store_last (b : Bank) (t a v : Nat) : (b.store t a v).last = b.last := by
  unfold store; split <;> rfl

theorem store_number (b : Bank) (t a v : Nat) : (b.store t a v).number = b.number := by
  unfold store; split <;> rfl

theorem store_isLockCell (b : Bank) (t a v : Nat) : (b.store t a v).isLockCell = b.isLockCell := by
  unfold store; split <;> rfl

theorem isLockCell_two (b : Bank) (h : b.hasLock = true ∨ b.hasLatch = true) : b.isLockCell 2 = true := by
  simp [isLockCell, h]

theorem canWrite_lockCell (b : Bank) (unl : Nat) {a : Nat} (h : b.isLockCell a = true) :
    b.canWrite unl a = decide (a ≤ b.last) := by
  simp [canWrite, implemented, h]

end Bank

theorem canWrite_rw (b : Bank) (m : Nat → Nat) (unl a : Nat) :
    ({ b with rw := m } : Bank).canWrite unl a = b.canWrite unl a := rfl

namespace MemUnit

def Listens (u : MemUnit) (dev : Bool) (a : Nat) : Prop := u.dev = dev ∧ u.addr = a

theorem incDtr0_eq (u : MemUnit) (hadv : u.advance = true) (h : u.dtr0 ≤ 255) :
    u.incDtr0 = min (u.dtr0 + 1) 255 := by
  grind [incDtr0]

theorem incDtr0_le (u : MemUnit) : u.incDtr0 ≤ u.dtr0 + 1 := by
  unfold incDtr0; split <;> omega

theorem step_dtr0 (u : MemUnit) (dev : Bool) (v : Nat) (h : u.dev = dev) :
    u.step (.dtr0 dev v) = (.none, { u with dtr0 := v, clock := u.clock + 1 }) := by
  simp [step, exec, h]

theorem step_dtr1 (u : MemUnit) (dev : Bool) (v : Nat) (h : u.dev = dev) :
    u.step (.dtr1 dev v) = (.none, { u with dtr1 := v, clock := u.clock + 1 }) := by
  simp [step, exec, h]

theorem step_enable (u : MemUnit) (dev : Bool) (a : Nat) (h : u.Listens dev a) :
    u.step (.enableWriteMemory dev a) = (.none, { u with we := true, clock := u.clock + 1 }) := by
  simp [step, exec, h.1, h.2]

theorem step_read (u : MemUnit) (dev : Bool) (a : Nat) (h : u.Listens dev a)
    (hb : u.dtr1 = u.bank.number) :
    u.step (.readMemoryLocation dev a) =
      (respOf (u.bank.cellAt u.clock u.dtr0),
        { u with we := false, dtr0 := u.incDtr0, clock := u.clock + 1 }) := by
  simp [step, exec, h.1, h.2, hb]

theorem step_read_absent (u : MemUnit) (dev : Bool) (a : Nat) (h : u.Listens dev a)
    (hb : u.dtr1 ≠ u.bank.number) :
    u.step (.readMemoryLocation dev a) = (.none, { u with we := false, clock := u.clock + 1 }) := by
  simp [step, exec, h.1, h.2, hb]

theorem step_query (u : MemUnit) (dev : Bool) (a : Nat) (h : u.Listens dev a) :
    u.step (.queryContentDTR0 dev a) = (.byte u.dtr0, { u with clock := u.clock + 1 }) := by
  simp [step, exec, h.1, h.2]

theorem step_write (u : MemUnit) (dev : Bool) (v : Nat) (h : u.dev = dev) :
    u.step (.writeMemoryLocation dev v) =
      ((u.writeCell v true).1, { (u.writeCell v true).2 with clock := u.clock + 1 }) := by
  simp [step, exec, h]

theorem step_writeNR (u : MemUnit) (dev : Bool) (v : Nat) (h : u.dev = dev) :
    u.step (.writeMemoryLocationNoReply dev v) =
      ((u.writeCell v false).1, { (u.writeCell v false).2 with clock := u.clock + 1 }) := by
  simp [step, exec, h]

theorem writeCell_enabled (u : MemUnit) (v : Nat) (reply : Bool) (hadv : u.advance = true)
    (hwe : u.we = true) (hb : u.dtr1 = u.bank.number) (hd : u.dtr0 ≤ 255) :
    u.writeCell v reply =
      if u.bank.canWrite u.unlockValue u.dtr0 then
        (if reply then .byte v else .none,
          { u with bank := u.bank.store u.clock u.dtr0 v, dtr0 := min (u.dtr0 + 1) 255 })
      else (.none, { u with dtr0 := min (u.dtr0 + 1) 255 }) := by
  rw [← incDtr0_eq u hadv hd]
  simp [writeCell, hwe, hb]

end MemUnit

/-- `if dtr0 != location: yield DTR0(location)` in front of `p` -/
def loadDtr0 {α : Type} (dev : Bool) (d : Option Nat) (l : Nat) (p : Prog α) : Prog α :=
  if d = some l then p else .send (.dtr0 dev l) fun _ => p

theorem readLoop_cons (dev : Bool) (a l : Nat) (ls : List Nat) (d : Option Nat) (acc : List Nat) :
    readLoop dev a (l :: ls) d acc = loadDtr0 dev d l (.send (.readMemoryLocation dev a) fun r =>
      match r with
      | .none => .fail .MemoryLocationNotImplemented
      | .err => .fail .ResponseError
      | .byte b => readLoop dev a ls (some (min (l + 1) 255)) (acc ++ [b])) := rfl

theorem writeLoop_cons (dev : Bool) (l v : Nat) (ps : List (Nat × Nat)) (d : Option Nat) :
    writeLoop dev false ((l, v) :: ps) d =
      loadDtr0 dev d l (.send (.writeMemoryLocation dev v) fun r =>
        match r with
        | .none => .fail .MemoryLocationNotWriteable
        | .err => .fail .ResponseError
        | .byte b =>
          if b ≠ v then .fail .ResponseError
          else writeLoop dev false ps (some (min (l + 1) 255))) := rfl

theorem run_loadDtr0 (u : MemUnit) {dev : Bool} (hdev : u.dev = dev) {d : Option Nat}
    (hd : ∀ x, d = some x → u.dtr0 = x) (l : Nat) {α : Type} (p : Prog α) :
    (loadDtr0 dev d l p).run MemUnit.step u =
      p.run MemUnit.step { u with dtr0 := l, clock := u.clock + if d = some l then 0 else 1 } := by
  unfold loadDtr0
  by_cases h : d = some l
  · rw [if_pos h, if_pos h, ← hd l h]; rfl
  · rw [if_neg h, if_neg h, run_send, MemUnit.step_dtr0 u dev l hdev]

def readAnswers (tr : List (Cmd × Resp)) : List Resp :=
  tr.filterMap fun cr => match cr.1 with | .readMemoryLocation .. => some cr.2 | _ => none

def EchoOK (tr : List (Cmd × Resp)) : Prop :=
  ∀ cr ∈ tr, ∀ d v, cr.1 = Cmd.writeMemoryLocation d v → cr.2 = Resp.byte v

theorem echoOK_nil : EchoOK [] := by intro cr h; cases h

theorem echoOK_cons (c : Cmd) (r : Resp) (tr : List (Cmd × Resp)) :
    EchoOK ((c, r) :: tr) ↔ (∀ d v, c = Cmd.writeMemoryLocation d v → r = Resp.byte v) ∧ EchoOK tr :=
  List.forall_mem_cons

theorem echoOK_cons_of_ne {c : Cmd} (hc : ∀ d v, c ≠ .writeMemoryLocation d v) (r : Resp)
    (tr : List (Cmd × Resp)) : EchoOK ((c, r) :: tr) ↔ EchoOK tr :=
  (echoOK_cons c r tr).trans (and_iff_right fun d v h => absurd h (hc d v))

theorem out_loadDtr0 {α : Type} {dev : Bool} {d : Option Nat} {l : Nat} {p : Prog α}
    {tr : List (Cmd × Resp)} {out : PyRes α} (h : Out (loadDtr0 dev d l p) tr out) :
    ∃ tr', Out p tr' out ∧ readAnswers tr = readAnswers tr' ∧ (EchoOK tr ↔ EchoOK tr') := by
  unfold loadDtr0 at h
  split at h
  · exact ⟨tr, h, rfl, Iff.rfl⟩
  · obtain ⟨r, tr', rfl, h'⟩ := (out_send _ _ _ _).mp h
    exact ⟨tr', h', rfl, echoOK_cons_of_ne (by nofun) _ _⟩

/-- key lemma of C09: the local `dtr0` of `read_raw` tracks the unit's DTR0 (`hd`, kept
through the induction), so the DTR0 load is skipped exactly when the unit is already there,
for any location order -/
theorem readLoop_run (dev : Bool) (a : Nat) :
    ∀ (locs : List Nat) (u : MemUnit) (d : Option Nat) (acc : List Nat),
      u.Listens dev a → u.advance = true → u.dtr1 = u.bank.number → u.bank.Stable →
      (∀ l ∈ locs, l ≤ 255) → (∀ x, d = some x → u.dtr0 = x) →
      ((readLoop dev a locs d acc).run MemUnit.step u).1 =
        readOutcome ((u.bank.readCells 0 locs).map (acc ++ ·)) ∧
      ((readLoop dev a locs d acc).run MemUnit.step u).2.bank = u.bank := by
  intro locs
  induction locs with
  | nil => intro u d acc _ _ _ _ _ _; exact ⟨congrArg readOutcome (congrArg some (List.append_nil acc).symm), rfl⟩
  | cons l ls ih =>
    intro u d acc hl hadv hb hst hlocs hd
    rw [List.forall_mem_cons] at hlocs
    rw [readLoop_cons, run_loadDtr0 u hl.1 hd]
    generalize u.clock + (if d = some l then 0 else 1) = c
    rw [run_send, MemUnit.step_read { u with dtr0 := l, clock := c } dev a hl hb,
      MemUnit.incDtr0_eq { u with dtr0 := l, clock := c } hadv hlocs.1, Bank.readCells,
      Bank.cellAt_stable _ hst c]
    cases u.bank.cellAt 0 l with
    | none => exact ⟨rfl, rfl⟩
    | some x =>
      obtain ⟨h1, h2⟩ := ih { u with we := false, dtr0 := min (l + 1) 255, clock := c + 1 }
        (some (min (l + 1) 255)) (acc ++ [x]) hl hadv hb hst hlocs.2 (fun y hy => Option.some.inj hy)
      refine ⟨h1.trans ?_, h2⟩
      cases u.bank.readCells 0 ls <;> simp [readOutcome]

theorem resolve_short (dev : Bool) (a : Nat) :
    resolveAddr (if dev then .devShort a else .gearShort a) = .ok (dev, a) := by cases dev <;> rfl

theorem readRaw_short (dev : Bool) (a bank : Nat) (locs : List Nat) :
    readRaw (if dev then .devShort a else .gearShort a) bank locs =
      .send (.dtr1 dev bank) fun _ => readLoop dev a locs none [] := by
  unfold readRaw; rw [resolve_short]

theorem readLoop_faults (dev : Bool) (a : Nat) :
    ∀ (locs : List Nat) (d : Option Nat) (acc : List Nat) (tr : List (Cmd × Resp)) (out : PyRes (List Nat)),
      Out (readLoop dev a locs d acc) tr out →
        (∃ bs, out = .ok (acc ++ bs) ∧ readAnswers tr = bs.map .byte ∧ bs.length = locs.length) ∨
        (∃ bs : List Nat, out = .error .MemoryLocationNotImplemented ∧ readAnswers tr = bs.map .byte ++ [.none]) ∨
        (∃ bs : List Nat, out = .error .ResponseError ∧ readAnswers tr = bs.map .byte ++ [.err]) := by
  intro locs
  induction locs with
  | nil =>
    intro d acc tr out h
    cases h
    exact .inl ⟨[], (List.append_nil acc).symm ▸ rfl, rfl, rfl⟩
  | cons l ls ih =>
    intro d acc tr out h
    rw [readLoop_cons] at h
    obtain ⟨tr', h1, hra, -⟩ := out_loadDtr0 h
    obtain ⟨r, tr'', rfl, h2⟩ := (out_send _ _ _ _).mp h1
    rw [hra, show readAnswers ((Cmd.readMemoryLocation dev a, r) :: tr'') = r :: readAnswers tr'' from rfl]
    cases r with
    | none => cases h2; exact .inr (.inl ⟨[], rfl, rfl⟩)
    | err => cases h2; exact .inr (.inr ⟨[], rfl, rfl⟩)
    | byte b =>
      rcases ih _ _ _ _ h2 with ⟨bs, e1, e2, e3⟩ | ⟨bs, e1, e2⟩ | ⟨bs, e1, e2⟩
      · exact .inl ⟨b :: bs, by rw [e1, List.append_assoc]; rfl, by rw [e2]; rfl, by rw [List.length_cons, e3]; rfl⟩
      · exact .inr (.inl ⟨b :: bs, e1, by rw [e2]; rfl⟩)
      · exact .inr (.inr ⟨b :: bs, e1, by rw [e2]; rfl⟩)

/-- the sequential reads of `read_all`; `d` is the unit's DTR0 had it not saturated at 255
(`d + n` reaches 256 after a read of location 255) -/
theorem readAllLoop_run (dev : Bool) (a : Nat) :
    ∀ (n : Nat) (u : MemUnit) (acc : List (Option Nat)) (d : Nat),
      u.Listens dev a → u.advance = true → u.dtr1 = u.bank.number → u.dtr0 = min d 255 → d + n ≤ 256 →
      (readAllLoop dev a n acc).run MemUnit.step u =
        (.ok (acc ++ (List.range n).map (fun j => u.bank.cellAt (u.clock + j) (d + j)), false),
          { u with clock := u.clock + n, dtr0 := min (d + n) 255,
                   we := if n = 0 then u.we else false }) := by
  intro n
  induction n with
  | zero =>
    intro u acc d _ _ _ hd _
    rw [List.range_zero, List.map_nil, List.append_nil, Nat.add_zero d, ← hd]
    rfl
  | succ n ih =>
    intro u acc d hl hadv hb hd hn
    have hd' : u.dtr0 = d := by omega
    have hgo : (readAllLoop dev a (n + 1) acc).run MemUnit.step u =
        (readAllLoop dev a n (acc ++ [u.bank.cellAt u.clock d])).run MemUnit.step
          { u with we := false, dtr0 := min (d + 1) 255, clock := u.clock + 1 } := by
      rw [readAllLoop, run_send, MemUnit.step_read u dev a hl hb, MemUnit.incDtr0_eq u hadv (by omega), hd']
      cases u.bank.cellAt u.clock d <;> rfl
    rw [hgo, ih { u with we := false, dtr0 := min (d + 1) 255, clock := u.clock + 1 } _ (d + 1) hl hadv hb rfl
      (by omega)]
    simp [List.range_succ_eq_map, Nat.add_assoc, Nat.add_comm 1]

theorem bind_send {α β} (c : Cmd) (k : Resp → Prog α) (f : α → Prog β) :
    (Prog.send c k).bind f = .send c (fun r => (k r).bind f) := rfl
theorem bind_done {α β} (x : α) (f : α → Prog β) : (Prog.done x).bind f = f x := rfl
theorem bind_fail {α β} (e : PyErr) (f : α → Prog β) : (Prog.fail e : Prog α).bind f = .fail e := rfl

/-- `DTR0 := 2; WRITE MEMORY LOCATION – NO REPLY v` at a conforming unit that is write-enabled
for its bank: how `read_all` sets and clears the latch and `write_raw` unlocks and locks -/
theorem run_lockWrite {α : Type} (u : MemUnit) {dev : Bool} (hdev : u.dev = dev) (hadv : u.advance = true)
    (hwe : u.we = true) (hb : u.dtr1 = u.bank.number) (v : Nat) (p : Prog α) :
    (Prog.send (.dtr0 dev 2) fun _ => .send (.writeMemoryLocationNoReply dev v) fun _ => p).run
        MemUnit.step u =
      p.run MemUnit.step
        { u with clock := u.clock + 2, dtr0 := 3,
                 bank := if u.bank.canWrite u.unlockValue 2 then u.bank.store (u.clock + 1) 2 v else u.bank } := by
  rw [run_send, MemUnit.step_dtr0 u dev 2 hdev, run_send,
    MemUnit.step_writeNR { u with dtr0 := 2, clock := u.clock + 1 } dev v hdev,
    MemUnit.writeCell_enabled { u with dtr0 := 2, clock := u.clock + 1 } v false hadv hwe hb (by show 2 ≤ 255; decide)]
  split <;> rfl

/-- ENABLE WRITE MEMORY and the lock-byte write: how `read_all` sets and clears the latch -/
theorem run_latchWrite {α : Type} (u : MemUnit) {dev : Bool} {a : Nat} (hl : u.Listens dev a)
    (hadv : u.advance = true) (hb : u.dtr1 = u.bank.number) (v : Nat) (p : Prog α) :
    (Prog.send (.enableWriteMemory dev a) fun _ => .send (.dtr0 dev 2) fun _ =>
        .send (.writeMemoryLocationNoReply dev v) fun _ => p).run MemUnit.step u =
      p.run MemUnit.step
        { u with clock := u.clock + 3, dtr0 := 3, we := true,
                 bank := if u.bank.canWrite u.unlockValue 2 then u.bank.store (u.clock + 2) 2 v else u.bank } := by
  rw [run_send, MemUnit.step_enable u dev a hl,
    run_lockWrite { u with we := true, clock := u.clock + 1 } hl.1 hadv rfl hb]

/-- what the reads of `read_all` from the unit's DTR0 up to `last` and the un-latch return and
leave: each cell as it is when its turn comes, then lock byte := 0xFF if the latch was used -/
def MemUnit.readTail (u : MemUnit) (latch : Bool) (last : Nat) : PyRes (List (Option Nat)) × MemUnit :=
  let n := last + 1 - u.dtr0
  (.ok (List.replicate u.dtr0 none ++ (List.range n).map (fun j => u.bank.cellAt (u.clock + j) (u.dtr0 + j))),
    if latch then
      { u with clock := u.clock + n + 3, dtr0 := 3, we := true,
               bank := if u.bank.canWrite u.unlockValue 2 then u.bank.store (u.clock + n + 2) 2 0xFF
                       else u.bank }
    else { u with clock := u.clock + n, dtr0 := min (u.dtr0 + n) 255, we := if n = 0 then u.we else false })

theorem readAllTail_run (u : MemUnit) {dev : Bool} {a : Nat} (latch : Bool) (last : Nat)
    (hl : u.Listens dev a) (hadv : u.advance = true) (hb : u.dtr1 = u.bank.number)
    (hd : u.dtr0 ≤ 255) (hlast : last ≤ 255) :
    (readAllTail dev a latch u.dtr0 last).run MemUnit.step u = u.readTail latch last := by
  rw [readAllTail, run_bind, readAllLoop_run dev a _ u _ _ hl hadv hb (Nat.min_eq_left hd).symm (by omega)]
  cases latch
  · rfl
  · simp only [if_true, Bool.false_eq_true, if_false]
    rw [run_latchWrite]
    · rfl
    · exact hl
    · exact hadv
    · exact hb

/-- the unit as `read_all` leaves it before the reads start -/
def MemUnit.afterLatch (u : MemUnit) (bank : Nat) (latch : Bool) : MemUnit :=
  { u with
    clock := u.clock + if latch then (if bank = 0 then 4 else 3) else 1
    dtr0 := if bank = 0 then 2 else 3
    we := latch || u.we
    bank := if latch ∧ u.bank.canWrite u.unlockValue 2 then u.bank.store (u.clock + 2) 2 0xAA else u.bank }

theorem readAllFrom_run (u : MemUnit) (dev : Bool) (a bank : Nat) (latch : Bool) (last : Nat)
    (hl : u.Listens dev a) (hadv : u.advance = true) (hb : u.dtr1 = u.bank.number) :
    (readAllFrom dev a bank latch last).run MemUnit.step u =
      (readAllTail dev a latch (if bank = 0 then 2 else 3) last).run MemUnit.step (u.afterLatch bank latch) := by
  unfold readAllFrom MemUnit.afterLatch
  cases latch
  · by_cases h0 : bank = 0 <;> simp [h0, MemUnit.step_dtr0 u dev _ hl.1]
  · simp only [if_true]
    rw [run_latchWrite u hl hadv hb]
    by_cases h0 : bank = 0 <;> simp [h0, MemUnit.step, MemUnit.exec, hl.1]

/-- `LastAddress.read` and hand-over to the rest -/
theorem readAllBody_run (u : MemUnit) (dev : Bool) (a bank : Nat) (hasLatch useLatch : Bool)
    (hl : u.Listens dev a) (hadv : u.advance = true) (hb : u.bank.number = bank) :
    (readAllBody dev a bank hasLatch useLatch).run MemUnit.step u =
      (readAllFrom dev a bank (useLatch && hasLatch) u.bank.last).run MemUnit.step
        { u with clock := u.clock + 3, dtr0 := 1, dtr1 := bank, we := false } := by
  simp [readAllBody, readRaw_short, readLoop, bind_send, bind_done, MemUnit.step, MemUnit.exec,
    MemUnit.incDtr0, hl.1, hl.2, hb, hadv, Bank.cellAt_zero, respOf]

/-- everything `read_all` does to a conforming unit that implements the bank, in one equation -/
theorem readAll_run (u : MemUnit) (dev : Bool) (a bank : Nat) (hasLatch useLatch : Bool)
    (hl : u.Listens dev a) (hadv : u.advance = true) (hb : u.bank.number = bank)
    (hlast : u.bank.last ≤ 255) :
    (readAll (if dev then .devShort a else .gearShort a) bank hasLatch useLatch).run MemUnit.step u =
      (({ u with clock := u.clock + 3, dtr0 := 1, dtr1 := bank, we := false } : MemUnit).afterLatch bank
        (useLatch && hasLatch)).readTail (useLatch && hasLatch) u.bank.last := by
  let u1 : MemUnit := { u with clock := u.clock + 3, dtr0 := 1, dtr1 := bank, we := false }
  have hnum : (u1.afterLatch bank (useLatch && hasLatch)).bank.number = u.bank.number := by
    show (if _ then _ else _ : Bank).number = _
    split
    · exact Bank.store_number ..
    · rfl
  rw [readAll, resolve_short, readAllBody_run u dev a bank hasLatch useLatch hl hadv hb,
    readAllFrom_run u1 dev a bank _ u.bank.last hl hadv hb.symm]
  exact readAllTail_run (u1.afterLatch bank _) _ _ hl hadv (hb.symm.trans hnum.symm)
    (by show (if bank = 0 then 2 else 3) ≤ 255; split <;> decide) hlast

def writeAll : List (Nat × Nat) → (Nat → Nat) → (Nat → Nat)
  | [], m => m
  | p :: ps, m => writeAll ps (fun x => if x = p.1 then p.2 else m x)

/-- the unit's DTR0 after the write loop -/
def finalDtr0 : List (Nat × Nat) → Nat → Nat
  | [], d => d
  | p :: ps, _ => finalDtr0 ps (min (p.1 + 1) 255)

/-- the local `dtr0` that `writeLoop` returns when entered with `d`: still `d` (possibly `None`)
if there was nothing to write -/
def finalD : List (Nat × Nat) → Option Nat → Option Nat
  | [], d => d
  | p :: ps, _ => finalD ps (some (min (p.1 + 1) 255))

theorem finalD_some (pairs : List (Nat × Nat)) (x : Nat) : finalD pairs (some x) = some (finalDtr0 pairs x) := by
  induction pairs generalizing x with
  | nil => rfl
  | cons p ps ih => exact ih _

/-- the local `dtr0` ends where the unit's DTR0 does, if it tracked it at entry (`hd`) and one of
the two was known or written (`hne`); `finalD [] none` is `none` -/
theorem finalD_eq_some {pairs : List (Nat × Nat)} {d : Option Nat} {x : Nat}
    (hd : ∀ y, d = some y → x = y) (hne : d = none → pairs ≠ []) :
    finalD pairs d = some (finalDtr0 pairs x) := by
  cases pairs with
  | cons p ps => exact finalD_some ps _
  | nil =>
    cases d with
    | none => exact absurd rfl (hne rfl)
    | some y => exact congrArg some (hd y rfl).symm

/-- the bank while it is unlocked by `write_raw` -/
def Bank.unlocked (b : Bank) : Bank := { b with lockByte := 0x55, snap := none }

/-- the re-lock step of `write_raw` -/
def relockP (dev unlock : Bool) : Prog Unit :=
  if unlock then
    .send (.dtr0 dev 2) fun _ => .send (.writeMemoryLocationNoReply dev 0xFF) fun _ => .done ()
  else .done ()

/-- `write_raw` after the optional unlock: loop, DTR0 check, re-lock -/
def mainP (dev : Bool) (a : Nat) (unlock : Bool) (pairs : List (Nat × Nat)) (d : Option Nat) : Prog Unit :=
  (writeLoop dev false pairs d).bind fun d' =>
    .send (.queryContentDTR0 dev a) fun r =>
      match r with
      | .none => .fail .ResponseError
      | .err => .fail .ResponseError
      | .byte b => if some b ≠ d' then .fail .MemoryWriteFailure else relockP dev unlock

/-- `write_raw` with the feedback checked, once address and pre-checks have passed -/
theorem writeRaw_checked {arg : AddrArg} {dev : Bool} {a : Nat} (hres : resolveAddr arg = .ok (dev, a))
    {locs : List (Nat × MemType)} {raw : List Nat} {s f unlock : Bool}
    (hchk : writeChecks locs raw.length s f = .ok unlock) (bank : Nat) :
    writeRaw arg bank locs raw s f false =
      .send (.dtr1 dev bank) fun _ => .send (.enableWriteMemory dev a) fun _ =>
        if unlock then
          .send (.dtr0 dev 2) fun _ => .send (.writeMemoryLocationNoReply dev 0x55) fun _ =>
            mainP dev a unlock ((locs.map (·.1)).zip raw) (some 3)
        else mainP dev a unlock ((locs.map (·.1)).zip raw) none := by
  unfold writeRaw; rw [hres]; simp only [hchk]; rfl

theorem writeRaw_refused (arg : AddrArg) (bank : Nat) (locs : List (Nat × MemType)) (raw : List Nat)
    (s f i : Bool) (e : PyErr) (dev : Bool) (a : Nat) (hres : resolveAddr arg = .ok (dev, a))
    (hchk : writeChecks locs raw.length s f = .error e)
    (tr : List (Cmd × Resp)) (out : PyRes Unit) (h : Out (writeRaw arg bank locs raw s f i) tr out) :
    tr = [] ∧ out = .error e := by
  unfold writeRaw at h
  rw [hres] at h
  simp only [hchk] at h
  exact (out_fail _ _ _).mp h

theorem writeChecks_readonly (locs : List (Nat × MemType)) (n : Nat) (s f : Bool)
    (hlen : if s then n ≤ locs.length else n = locs.length)
    (hro : ∃ l ∈ locs, l.2.writeable = false) :
    writeChecks locs n s f = .error .MemoryValueNotWriteable := by
  obtain ⟨l, hl, hw⟩ := hro
  have h2 : locs.any (fun l => !l.2.writeable) = true := List.any_eq_true.mpr ⟨l, hl, by rw [hw]; rfl⟩
  unfold writeChecks
  grind

theorem writeChecks_length (locs : List (Nat × MemType)) (n : Nat) (s f : Bool)
    (hlen : if s then n > locs.length else n ≠ locs.length) :
    writeChecks locs n s f = .error .ValueError := if_pos hlen

theorem writeChecks_error (locs : List (Nat × MemType)) (n : Nat) (s f : Bool) (e : PyErr)
    (h : writeChecks locs n s f = .error e) : e = .ValueError ∨ e = .MemoryValueNotWriteable := by
  unfold writeChecks at h
  grind

theorem resolveAddr_error (arg : AddrArg) (e : PyErr) (h : resolveAddr arg = .error e) :
    e = .TypeError ∨ e = .ValueError := by
  unfold resolveAddr at h
  grind

/-- key lemma of C10, with the DTR0 tracking invariant `hd` of `readLoop_run` -/
theorem writeLoop_run (dev : Bool) (pairs : List (Nat × Nat)) (u : MemUnit) (d : Option Nat)
    (hdev : u.dev = dev) (hadv : u.advance = true) (hwe : u.we = true) (hb : u.dtr1 = u.bank.number)
    (hlocs : ∀ p ∈ pairs, p.1 ≤ 255) (hnl : ∀ p ∈ pairs, u.bank.isLockCell p.1 = false)
    (hd : ∀ x, d = some x → u.dtr0 = x) :
    ((∀ p ∈ pairs, u.bank.canWrite u.unlockValue p.1 = true) →
      ∃ c, (writeLoop dev false pairs d).run MemUnit.step u =
        (.ok (finalD pairs d),
          { u with clock := c, dtr0 := finalDtr0 pairs u.dtr0,
                   bank := { u.bank with rw := writeAll pairs u.bank.rw } })) ∧
    (¬ (∀ p ∈ pairs, u.bank.canWrite u.unlockValue p.1 = true) →
      ((writeLoop dev false pairs d).run MemUnit.step u).1 = .error .MemoryLocationNotWriteable) := by
  induction pairs generalizing u d with
  | nil => exact ⟨fun _ => ⟨u.clock, rfl⟩, fun h => absurd (fun _ hp => nomatch hp) h⟩
  | cons p ps ih =>
    obtain ⟨l, v⟩ := p
    rw [List.forall_mem_cons] at hlocs hnl
    rw [writeLoop_cons, run_loadDtr0 u hdev hd]
    generalize u.clock + (if d = some l then 0 else 1) = c
    rw [run_send, MemUnit.step_write { u with dtr0 := l, clock := c } dev v hdev,
      MemUnit.writeCell_enabled { u with dtr0 := l, clock := c } v true hadv hwe hb hlocs.1,
      List.forall_mem_cons]
    by_cases hcw : u.bank.canWrite u.unlockValue l = true
    · simp only [hcw, if_true, true_and, ne_eq, not_true_eq_false, if_false, Bank.store_other _ _ _ hnl.1]
      exact ih { u with bank := { u.bank with rw := fun x => if x = l then v else u.bank.rw x },
                        dtr0 := min (l + 1) 255, clock := c + 1 }
        (some (min (l + 1) 255)) hdev hadv hwe hb hlocs.2 hnl.2 (fun x hx => Option.some.inj hx)
    · simp only [hcw, Bool.false_eq_true, if_false, false_and]
      exact ⟨nofun, fun _ => rfl⟩

theorem writeLoop_faults (dev : Bool) :
    ∀ (pairs : List (Nat × Nat)) (d : Option Nat) (tr : List (Cmd × Resp)) (out : PyRes (Option Nat)),
      Out (writeLoop dev false pairs d) tr out →
        match out with
        | .ok _ => EchoOK tr
        | .error e => e = .MemoryLocationNotWriteable ∨ e = .ResponseError := by
  intro pairs
  induction pairs with
  | nil => intro d tr out h; cases h; exact echoOK_nil
  | cons p ps ih =>
    intro d tr out h
    obtain ⟨l, v⟩ := p
    rw [writeLoop_cons] at h
    obtain ⟨tr', h1, -, he⟩ := out_loadDtr0 h
    obtain ⟨r, tr'', rfl, h2⟩ := (out_send _ _ _ _).mp h1
    cases r with
    | none => cases h2; exact .inl rfl
    | err => cases h2; exact .inr rfl
    | byte b =>
      dsimp only at h2
      by_cases hbv : b = v
      · subst hbv
        rw [if_neg (not_not_intro rfl)] at h2
        have := ih _ _ _ h2
        cases out with
        | error e => exact this
        | ok d' => exact he.mpr ((echoOK_cons ..).mpr ⟨fun _ _ hc => by cases hc; rfl, this⟩)
      · rw [if_pos hbv] at h2; cases h2; exact .inr rfl

theorem relockP_faults (dev unlock : Bool) (tr : List (Cmd × Resp)) (out : PyRes Unit)
    (h : Out (relockP dev unlock) tr out) : out = .ok () ∧ EchoOK tr := by
  unfold relockP at h
  cases unlock
  · cases h; exact ⟨rfl, echoOK_nil⟩
  · obtain ⟨r1, t1, rfl, h1⟩ := (out_send _ _ _ _).mp h
    obtain ⟨r2, t2, rfl, h2⟩ := (out_send _ _ _ _).mp h1
    cases h2
    exact ⟨rfl, (echoOK_cons_of_ne (by nofun) _ _).mpr
      ((echoOK_cons_of_ne (by nofun) _ _).mpr echoOK_nil)⟩

/-- what `write_raw` with the feedback checked can end with against any responder: a normal
return only if every write was echoed with its own value and DTR0 was read back as a clean
byte, otherwise one of the documented exceptions -/
def WriteVerdict (tr : List (Cmd × Resp)) (out : PyRes Unit) : Prop :=
  (out = .ok () ∧ EchoOK tr ∧ ∃ dev a b, (Cmd.queryContentDTR0 dev a, Resp.byte b) ∈ tr) ∨
  (∃ e, out = .error e ∧ (e = .TypeError ∨ e = .ValueError ∨ e = .MemoryValueNotWriteable ∨
    e = .MemoryLocationNotWriteable ∨ e = .ResponseError ∨ e = .MemoryWriteFailure))

theorem WriteVerdict.send {c : Cmd} (hc : ∀ d v, c ≠ .writeMemoryLocation d v) {k : Resp → Prog Unit}
    {tr : List (Cmd × Resp)} {out : PyRes Unit} (h : Out (.send c k) tr out)
    (hk : ∀ r tr', Out (k r) tr' out → WriteVerdict tr' out) : WriteVerdict tr out := by
  obtain ⟨r, tr', rfl, h'⟩ := (out_send _ _ _ _).mp h
  exact (hk r tr' h').imp_left fun ⟨ho, he, dev, a, b, hb⟩ =>
    ⟨ho, (echoOK_cons_of_ne hc r tr').mpr he, dev, a, b, .tail _ hb⟩

/-- loop, DTR0 check and hand-over to the re-lock at a conforming write-enabled unit; with
nothing tracked and nothing to write (`hne`) the check would compare the answer with `None` -/
theorem mainP_run {dev : Bool} {a : Nat} (unlock : Bool) (pairs : List (Nat × Nat)) (u : MemUnit)
    (d : Option Nat) (hl : u.Listens dev a) (hadv : u.advance = true) (hwe : u.we = true)
    (hb : u.dtr1 = u.bank.number) (hlocs : ∀ p ∈ pairs, p.1 ≤ 255)
    (hnl : ∀ p ∈ pairs, u.bank.isLockCell p.1 = false) (hd : ∀ x, d = some x → u.dtr0 = x)
    (hne : d = none → pairs ≠ []) :
    ((∀ p ∈ pairs, u.bank.canWrite u.unlockValue p.1 = true) →
      ∃ c, (mainP dev a unlock pairs d).run MemUnit.step u =
        (relockP dev unlock).run MemUnit.step
          { u with clock := c, dtr0 := finalDtr0 pairs u.dtr0,
                   bank := { u.bank with rw := writeAll pairs u.bank.rw } }) ∧
    (¬ (∀ p ∈ pairs, u.bank.canWrite u.unlockValue p.1 = true) →
      ((mainP dev a unlock pairs d).run MemUnit.step u).1 = .error .MemoryLocationNotWriteable) := by
  obtain ⟨hok, hbad⟩ := writeLoop_run dev pairs u d hl.1 hadv hwe hb hlocs hnl hd
  refine ⟨fun hcw => ?_, fun hcw => run_bind_error _ _ _ _ _ (hbad hcw)⟩
  obtain ⟨c, hrun⟩ := hok hcw
  refine ⟨c + 1, ?_⟩
  rw [mainP, run_bind, hrun]
  show (Prog.send _ _).run MemUnit.step _ = _
  rw [run_send, MemUnit.step_query _ dev a (by exact hl)]
  simp only [finalD_eq_some hd hne, ne_eq, not_true_eq_false, if_false]

theorem mainP_faults (dev : Bool) (a : Nat) (unlock : Bool) (pairs : List (Nat × Nat)) (d : Option Nat)
    (tr : List (Cmd × Resp)) (out : PyRes Unit) (h : Out (mainP dev a unlock pairs d) tr out) :
    WriteVerdict tr out := by
  rcases out_bind _ _ _ _ h with ⟨tr1, tr2, d', rfl, h1, h2⟩ | ⟨e, h1, rfl⟩
  · have hecho : EchoOK tr1 := writeLoop_faults dev _ _ _ _ h1
    obtain ⟨r, tr3, rfl, h3⟩ := (out_send _ _ _ _).mp h2
    cases r with
    | none => cases h3; exact .inr ⟨_, rfl, by simp⟩
    | err => cases h3; exact .inr ⟨_, rfl, by simp⟩
    | byte b =>
      dsimp only at h3
      by_cases hb : some b = d'
      · rw [if_neg (not_not_intro hb)] at h3
        obtain ⟨rfl, h4⟩ := relockP_faults dev unlock _ _ h3
        exact .inl ⟨rfl, List.forall_mem_append.mpr ⟨hecho, (echoOK_cons_of_ne (by nofun) _ _).mpr h4⟩,
          dev, a, b, List.mem_append_right _ (List.mem_cons_self ..)⟩
      · rw [if_pos hb] at h3; cases h3; exact .inr ⟨_, rfl, by simp⟩
  · exact .inr ⟨e, rfl, .inr (.inr (.inr ((writeLoop_faults dev _ _ _ _ h1).imp_right .inl)))⟩

end DaliVerif.DevMem
