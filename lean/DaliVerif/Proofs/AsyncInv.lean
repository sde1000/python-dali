import DaliVerif.Model.Async
/-!
# The invariant of the interleaving model, and the static facts it rests on

`Inv s` ties the dynamic state (who holds the transaction lock, the inner
serialiser, an outstanding slot; the lock/wire log) to the static bracketing
discipline `wf` of every task's remaining program.  This file holds the
definitions, what the log checks `holderR` and `wireEdtR` say of the log read oldest first, and what
is true of `Act.eff`, `wfSeg` and `edtSeg` on their own;
`Proofs/AsyncStep.lean` shows that every label preserves `Inv`.
-/
namespace DaliVerif.Async
open DaliVerif.Conn

/-- who holds the lock after the events of a (newest-first) log, `none` if the log is not
a legal history of a one-holder lock with writes by the holder only -/
def holderR : List (Tid × Ev) → Option (Option Tid)
  | [] => some none
  | (t, e) :: l =>
    match holderR l with
    | none => none
    | some h =>
      match e with
      | .acq => if h = none then some (some t) else none
      | .rel => if h = some t then some none else none
      | .write _ => if h = some t then some h else none

/-- the grammar `(acq_t write_t* rel_t)*` with possibly one open unit at the end, oldest event
first, indexed by the holder before and after -/
inductive Bracketed : Option Tid → List (Tid × Ev) → Option Tid → Prop
  | nil (h) : Bracketed h [] h
  | acq {t l h} : Bracketed (some t) l h → Bracketed none ((t, .acq) :: l) h
  | write {t f l h} : Bracketed (some t) l h → Bracketed (some t) ((t, .write f) :: l) h
  | rel {t l h} : Bracketed none l h → Bracketed (some t) ((t, .rel) :: l) h

theorem Bracketed.snoc {a b c : Option Tid} {l : List (Tid × Ev)} {x : Tid × Ev}
    (h1 : Bracketed a l b) (h2 : Bracketed b [x] c) : Bracketed a (l ++ [x]) c := by
  induction h1 with
  | nil h => exact h2
  | acq _ ih => exact Bracketed.acq (ih h2)
  | write _ ih => exact Bracketed.write (ih h2)
  | rel _ ih => exact Bracketed.rel (ih h2)

theorem bracketed_of_holderR {l : List (Tid × Ev)} {h : Option Tid} (hh : holderR l = some h) :
    Bracketed none l.reverse h := by
  induction l generalizing h with
  | nil => cases hh; exact Bracketed.nil none
  | cons x l ih =>
    obtain ⟨t, e⟩ := x
    simp only [holderR] at hh
    cases hp : holderR l with
    | none => simp [hp] at hh
    | some h0 =>
      simp only [hp] at hh
      rw [List.reverse_cons]
      refine Bracketed.snoc (ih hp) ?_
      -- each event is legal after the history `l`: `holderR` checked just that
      cases e <;> (simp only at hh; split at hh <;> cases hh; rename_i h00; subst h00)
      · exact Bracketed.acq (Bracketed.nil _)
      · exact Bracketed.rel (Bracketed.nil _)
      · exact Bracketed.write (Bracketed.nil _)

/-- newest-first wire: every device-type frame sits directly on top of its EnableDeviceType,
written by the same task -/
def wireEdtR : List (Tid × WFrame) → Bool
  | [] => true
  | (t, f) :: l => (f.dt == 0 || l.head? == some (t, edtFrame f.dt)) && wireEdtR l

/-- oldest-first wire: every device-type frame is immediately preceded by the same task's
EnableDeviceType -/
def EdtAdjacent (w : List (Tid × WFrame)) : Prop :=
  ∀ (pre post : List (Tid × WFrame)) (t : Tid) (f : WFrame), w = pre ++ (t, f) :: post → f.dt ≠ 0 →
    ∃ pre', pre = pre' ++ [(t, edtFrame f.dt)]

theorem edtAdjacent_of_wireEdtR {w : List (Tid × WFrame)} (h : wireEdtR w = true) : EdtAdjacent w.reverse := by
  induction w with
  | nil =>
    intro pre post t f he; simp at he
  | cons x w ih =>
    obtain ⟨u, g⟩ := x
    simp only [wireEdtR, Bool.and_eq_true, Bool.or_eq_true] at h
    intro pre post t f he hdt
    rw [List.reverse_cons] at he
    -- either the frame is inside `w.reverse` or it is the last one
    rcases List.eq_nil_or_concat post with hpost | ⟨post', y, hpost⟩
    · subst hpost
      obtain ⟨hpre, hlast⟩ := List.append_inj' he.symm rfl
      cases hlast
      rcases h.1 with h1 | h1
      · exact absurd (by simpa using h1) hdt
      · cases w with
        | nil => simp at h1
        | cons z w' =>
          simp only [List.head?_cons, beq_iff_eq, Option.some.injEq] at h1
          subst h1
          exact ⟨w'.reverse, by rw [hpre, List.reverse_cons]⟩
    · subst hpost
      have : w.reverse ++ [(u, g)] = (pre ++ (t, f) :: post') ++ [y] := by
        rw [he]; simp
      exact ih h.2 pre post' t f (List.append_inj' this rfl).1 hdt

def res (s : St) (t : Tid) : Res :=
  ⟨decide (s.lock = some t), decide (t ∈ s.inner), decide (t ∈ s.owners)⟩

/-- the frame task `t` wrote last in the locked region it is in -/
def lastFrame (s : St) (t : Tid) : Option WFrame :=
  match wireOf s.log with
  | (u, f) :: _ => if u = t ∧ s.lock = some t then some f else none
  | [] => none

structure TaskInv (s : St) (t : Tid) (tk : Task) : Prop where
  wf : wf tk.retry.isSome (res s t) tk.prog = true
  ok : (res s t).ok = true
  edt : edtOK (lastFrame s t) tk.prog = true
  retry : ∀ b, tk.retry = some b → Async.wf true loopHead b = true ∧ edtOK none b = true

structure Inv (s : St) : Prop where
  tasks : ∀ t tk, s.tasks[t]? = some tk → TaskInv s t tk
  bound : ∀ t, s.tasks.length ≤ t → res s t = ⟨false, false, false⟩
  log : holderR s.log = some s.lock
  wire : wireEdtR (wireOf s.log) = true

theorem eff_acq {r r' : Res} (h : Act.acq.eff r = some r') : r.lock = false ∧ r' = { r with lock := true } := by
  simp only [Act.eff] at h; split at h <;> simp_all

theorem eff_rel {r r' : Res} (h : Act.rel.eff r = some r') : r.lock = true ∧ r' = { r with lock := false } := by
  simp only [Act.eff] at h; split at h <;> simp_all

theorem eff_iacq {r r' : Res} (h : Act.iacq.eff r = some r') :
    r.lock = true ∧ r.inner = false ∧ r' = { r with inner := true } := by
  simp only [Act.eff] at h; split at h <;> simp_all

theorem eff_irel {r r' : Res} (h : Act.irel.eff r = some r') : r' = { r with inner := false } := by
  simp only [Act.eff] at h; split at h <;> simp_all

theorem eff_slot {r r' : Res} (h : Act.slot.eff r = some r') :
    r.inner = true ∧ r.slot = false ∧ r' = { r with slot := true } := by
  simp only [Act.eff] at h; split at h <;> simp_all

theorem eff_unslot {r r' : Res} (h : Act.unslot.eff r = some r') : r' = { r with slot := false } := by
  simp only [Act.eff, Option.some.injEq] at h; exact h.symm

theorem eff_write {f : WFrame} {r r' : Res} (h : (Act.write f).eff r = some r') :
    r.lock = true ∧ r.inner = true ∧ r' = r := by
  simp only [Act.eff] at h; split at h <;> simp_all

/-- actions that touch neither lock, inner serialiser, slot table nor wire -/
def Act.pure : Act → Bool
  | .connWait | .connCheck | .await _ _ | .flush | .flush1 | .poll | .sleep | .resume | .close => true
  | _ => false

theorem eff_pure {a : Act} {r r' : Res} (hp : a.pure = true) (he : a.eff r = some r') : r' = r := by
  cases a <;> simp_all [Act.pure, Act.eff]

/-- a slot is held only inside the inner serialiser, that only under the lock: every action keeps it so -/
theorem ok_eff {r r' : Res} (a : Act) (h : r.ok = true) (he : a.eff r = some r') : r'.ok = true := by
  cases a <;> grind [Act.eff, Res.ok]

theorem isCleanup_cases {a : Act} (h : a.isCleanup = true) : a = .rel ∨ a = .irel ∨ a = .unslot ∨ a = .close := by
  cases a <;> simp [Act.isCleanup] at h ⊢

/-! ## monotonicity: losing the slot (device loss empties the table) keeps a program well formed -/

def Res.le (a b : Res) : Prop := a.lock = b.lock ∧ a.inner = b.inner ∧ (a.slot = true → b.slot = true)

/-- the guards of `eff` test the slot only negatively -/
theorem eff_mono {a b b' : Res} (act : Act) (h : Res.le a b) (hb : act.eff b = some b') :
    ∃ a', act.eff a = some a' ∧ Res.le a' b' := by
  obtain ⟨h1, h2, h3⟩ := h
  cases act <;> simp only [Act.eff, ← h1, ← h2] at hb ⊢ <;> grind [Res.le]

theorem runActs_mono {a b b' : Res} (l : List Act) (h : Res.le a b) (hb : runActs b l = some b') :
    ∃ a', runActs a l = some a' ∧ Res.le a' b' := by
  induction l generalizing a b with
  | nil => cases hb; exact ⟨a, rfl, h⟩
  | cons x xs ih =>
    simp only [runActs] at hb ⊢
    cases hx : x.eff b with
    | none => simp [hx] at hb
    | some b1 =>
      obtain ⟨a1, ha1, hle⟩ := eff_mono x h hx
      rw [hx] at hb
      rw [ha1]
      exact ih hle hb

theorem free_mono {a b : Res} (h : Res.le a b) (hb : b.free = true) : a.free = true := by
  grind [Res.le, Res.free]

theorem ok_mono {a b : Res} (h : Res.le a b) (hb : b.ok = true) : a.ok = true := by
  grind [Res.le, Res.ok]

theorem cleanupOK_mono {a b : Res} (l : List Act) (h : Res.le a b) (hb : cleanupOK b l = true) :
    cleanupOK a l = true := by
  simp only [cleanupOK, Bool.and_eq_true] at hb ⊢
  refine ⟨hb.1, ?_⟩
  cases hr : runActs b l with
  | none => simp [hr] at hb
  | some b' =>
    obtain ⟨a', ha', hle⟩ := runActs_mono l h hr
    rw [ha']
    exact free_mono hle (by simpa [hr] using hb.2)

theorem retryOK_mono {a b : Res} (l : List Act) (h : Res.le a b) (hb : retryOK b l = true) :
    retryOK a l = true := by
  simp only [retryOK, Bool.and_eq_true] at hb ⊢
  refine ⟨hb.1, ?_⟩
  cases hr : runActs b l with
  | none => simp [hr] at hb
  | some b' =>
    obtain ⟨a', ha', hle⟩ := runActs_mono l h hr
    have hb' : b' = loopHead := by simpa [hr] using hb.2
    subst hb'
    obtain ⟨l', i', s'⟩ := a'
    obtain ⟨rfl, rfl, h3⟩ := hle
    cases s'
    · rw [ha']; rfl
    · cases h3 rfl

theorem stepOK_mono {a b : Res} (hr : Bool) (st : Step) (h : Res.le a b) (hb : stepOK hr b st = true) :
    stepOK hr a st = true := by
  simp only [stepOK, Bool.and_eq_true, Bool.or_eq_true] at hb ⊢
  exact ⟨hb.1.imp_right (cleanupOK_mono _ h), hb.2.imp_right (retryOK_mono _ h)⟩

theorem wfSeg_mono {a b b' : Res} (hr : Bool) (p : List Step) (h : Res.le a b)
    (hb : wfSeg hr b p = some b') : ∃ a', wfSeg hr a p = some a' ∧ Res.le a' b' := by
  induction p generalizing a b with
  | nil => cases hb; exact ⟨a, rfl, h⟩
  | cons st p ih =>
    simp only [wfSeg] at hb ⊢
    split at hb
    · rename_i hs
      rw [if_pos (stepOK_mono hr st h hs)]
      cases hx : st.act.eff b with
      | none => simp [hx] at hb
      | some b1 =>
        obtain ⟨a1, ha1, hle⟩ := eff_mono st.act h hx
        rw [hx] at hb
        rw [ha1]
        exact ih hle hb
    · cases hb

theorem wf_mono {a b : Res} (hr : Bool) (p : List Step) (h : Res.le a b) (hb : wf hr b p = true) :
    wf hr a p = true := by
  simp only [wf] at hb ⊢
  cases hw : wfSeg hr b p with
  | none => simp [hw] at hb
  | some b' =>
    obtain ⟨a', ha', hle⟩ := wfSeg_mono hr p h hw
    rw [ha']
    exact free_mono hle (by simpa [hw] using hb)

theorem wf_cons {hr : Bool} {r : Res} {st : Step} {p : List Step} (h : wf hr r (st :: p) = true) :
    (st.act.canRaise = true → cleanupOK r st.h = true) ∧
    (hr = true → st.act.canComm = true → retryOK r st.hr = true) ∧
    ∃ r', st.act.eff r = some r' ∧ wf hr r' p = true := by
  simp only [wf, wfSeg] at h
  by_cases hs : stepOK hr r st = true
  · refine ⟨fun hc => by simp [stepOK, hc] at hs; exact hs.1, fun h1 h2 => by simp [stepOK, h1, h2] at hs; exact hs.2, ?_⟩
    cases hx : st.act.eff r with
    | none => simp [hs, hx] at h
    | some r1 => exact ⟨r1, rfl, by simpa [wf, hs, hx] using h⟩
  · simp [hs] at h

theorem wfSeg_append (hr : Bool) (r : Res) (p q : List Step) :
    wfSeg hr r (p ++ q) = (wfSeg hr r p).bind (fun r' => wfSeg hr r' q) := by
  induction p generalizing r with
  | nil => rfl
  | cons st p ih =>
    simp only [List.cons_append, wfSeg]
    split
    · cases st.act.eff r with
      | none => rfl
      | some r1 => exact ih r1
    · rfl

theorem edtSeg_append (prev : Option WFrame) (p q : List Step) :
    edtSeg prev (p ++ q) = (edtSeg prev p).bind (fun x => edtSeg x q) := by
  induction p generalizing prev with
  | nil => rfl
  | cons st p ih =>
    simp only [List.cons_append, edtSeg]
    split <;> first | exact ih _ | (split <;> first | exact ih _ | rfl)

/-- a clean-up list run as a program is checked like the list itself: its steps neither raise nor retry -/
theorem wfSeg_plain (hr : Bool) (r : Res) (h : List Act) (hc : h.all Act.isCleanup = true) :
    wfSeg hr r (plain h) = runActs r h := by
  induction h generalizing r with
  | nil => rfl
  | cons a l ih =>
    simp only [List.all_cons, Bool.and_eq_true] at hc
    have hs : stepOK hr r { act := a } = true := by
      rcases isCleanup_cases hc.1 with rfl | rfl | rfl | rfl <;> simp [stepOK, Act.canRaise, Act.canComm]
    simp only [plain, List.map_cons, wfSeg, runActs, hs, if_true]
    cases a.eff r with
    | none => rfl
    | some r1 => exact ih r1 hc.2

theorem wf_plain_of_cleanupOK (hr : Bool) (r : Res) (h : List Act) (hc : cleanupOK r h = true) :
    wf hr r (plain h) = true := by
  simp only [cleanupOK, Bool.and_eq_true] at hc
  simp only [wf, wfSeg_plain hr r h hc.1]
  exact hc.2

theorem edtSeg_plain (prev : Option WFrame) (h : List Act) (hc : h.all Act.isCleanup = true) :
    (edtSeg prev (plain h)).isSome = true := by
  induction h generalizing prev with
  | nil => rfl
  | cons a l ih =>
    simp only [List.all_cons, Bool.and_eq_true] at hc
    rcases isCleanup_cases hc.1 with rfl | rfl | rfl | rfl <;> exact ih _ hc.2

/-- knowing a previous frame never hurts -/
theorem edtSeg_mono (prev : Option WFrame) (p : List Step) (h : (edtSeg none p).isSome = true) :
    (edtSeg prev p).isSome = true := by
  induction p generalizing prev with
  | nil => rfl
  | cons st p ih =>
    simp only [edtSeg] at h ⊢
    cases hact : st.act <;> simp only [hact] at h ⊢ <;> first | exact h | exact ih _ h | skip
    rename_i f
    by_cases hd : (f.dt == 0) = true
    · simpa only [hd, Bool.true_or, if_true] using h
    · simp [hd, edtFrame] at h

theorem edtOK_mono (prev : Option WFrame) (p : List Step) (h : edtOK none p = true) :
    edtOK prev p = true := edtSeg_mono prev p h

theorem edtOK_cons_write {prev : Option WFrame} {st : Step} {p : List Step} {f : WFrame}
    (ha : st.act = .write f) (h : edtOK prev (st :: p) = true) :
    (f.dt == 0 || prev == some (edtFrame f.dt)) = true ∧ edtOK (some f) p = true := by
  simp only [edtOK, edtSeg, ha] at h
  split at h
  · rename_i hc; exact ⟨hc, h⟩
  · cases h

theorem edtOK_cons_lock {prev : Option WFrame} {st : Step} {p : List Step}
    (ha : st.act = .acq ∨ st.act = .rel) (h : edtOK prev (st :: p) = true) : edtOK none p = true := by
  rcases ha with ha | ha <;> simpa only [edtOK, edtSeg, ha] using h

theorem edt_skip {prev : Option WFrame} {st : Step} {p : List Step}
    (hn : ∀ f, st.act ≠ .write f) (hedt : edtOK prev (st :: p) = true) : edtOK prev p = true := by
  simp only [edtOK, edtSeg] at hedt
  split at hedt
  · exact absurd ‹_› (hn _)
  · exact edtOK_mono _ _ hedt
  · exact edtOK_mono _ _ hedt
  · exact hedt

end DaliVerif.Async
