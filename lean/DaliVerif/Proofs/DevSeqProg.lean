import DaliVerif.Model.DevMemProg
/-!
Generic lemmas about `Prog` (`Model/DevMemProg.lean`) for C09, C10 and C13: `run` through
`bind`, and `Out`, the exchanges a sequence can have with *some* responder, which is what
the fault theorems quantify over (`run_traced`: every run against any responder is one).
-/
namespace DaliVerif.DevMem
namespace Prog

variable {σ α β : Type}

@[simp] theorem run_done (step : σ → Cmd → Resp × σ) (a : α) (s : σ) :
    (done a : Prog α).run step s = (.ok a, s) := rfl

@[simp] theorem run_fail (step : σ → Cmd → Resp × σ) (e : PyErr) (s : σ) :
    (fail e : Prog α).run step s = (.error e, s) := rfl

@[simp] theorem run_send (step : σ → Cmd → Resp × σ) (c : Cmd) (k : Resp → Prog α) (s : σ) :
    (send c k).run step s = (k (step s c).1).run step (step s c).2 := rfl

theorem run_bind (step : σ → Cmd → Resp × σ) (p : Prog α) (f : α → Prog β) (s : σ) :
    (p.bind f).run step s =
      match p.run step s with
      | (.ok a, s') => (f a).run step s'
      | (.error e, s') => (.error e, s') := by
  induction p generalizing s with
  | done a => rfl
  | fail e => rfl
  | send c k ih => exact ih _ _

theorem run_bind_error (step : σ → Cmd → Resp × σ) (p : Prog α) (f : α → Prog β) (s : σ) (e : PyErr)
    (h : (p.run step s).1 = .error e) : ((p.bind f).run step s).1 = .error e := by
  rw [run_bind]
  generalize p.run step s = r at h ⊢
  obtain ⟨r1, r2⟩ := r
  subst h
  rfl

theorem run_catchErr (step : σ → Cmd → Resp × σ) (e : PyErr) (p h : Prog α) (s : σ) :
    (catchErr e p h).run step s =
      match p.run step s with
      | (.ok a, s') => (.ok a, s')
      | (.error e', s') => if e' = e then h.run step s' else (.error e', s') := by
  induction p generalizing s with
  | done a => rfl
  | fail e' => simp only [catchErr, run_fail]; split <;> rfl
  | send c k ih => exact ih _ _

/-- `Out p tr res`: against *some* responder (any unit, any fault pattern) the
sequence `p` exchanges exactly `tr` and ends with `res`. -/
inductive Out {α : Type} : Prog α → List (Cmd × Resp) → PyRes α → Prop where
  | done (a : α) : Out (.done a) [] (.ok a)
  | fail (e : PyErr) : Out (.fail e) [] (.error e)
  | send (c : Cmd) (k : Resp → Prog α) (r : Resp) (tr : List (Cmd × Resp)) (res : PyRes α) :
      Out (k r) tr res → Out (.send c k) ((c, r) :: tr) res

@[simp] theorem out_done (a : α) (tr : List (Cmd × Resp)) (res : PyRes α) :
    Out (.done a) tr res ↔ tr = [] ∧ res = .ok a := by
  constructor
  · intro h; cases h; exact ⟨rfl, rfl⟩
  · rintro ⟨rfl, rfl⟩; exact .done a

@[simp] theorem out_fail (e : PyErr) (tr : List (Cmd × Resp)) (res : PyRes α) :
    Out (.fail e : Prog α) tr res ↔ tr = [] ∧ res = .error e := by
  constructor
  · intro h; cases h; exact ⟨rfl, rfl⟩
  · rintro ⟨rfl, rfl⟩; exact .fail e

@[simp] theorem out_send (c : Cmd) (k : Resp → Prog α) (tr : List (Cmd × Resp)) (res : PyRes α) :
    Out (.send c k) tr res ↔ ∃ r tr', tr = (c, r) :: tr' ∧ Out (k r) tr' res := by
  constructor
  · intro h; cases h with | send _ _ r tr' _ h' => exact ⟨r, tr', rfl, h'⟩
  · rintro ⟨r, tr', rfl, h⟩; exact .send c k r tr' res h

theorem out_bind {β : Type} (p : Prog α) (f : α → Prog β) (tr : List (Cmd × Resp)) (out : PyRes β) :
    Out (p.bind f) tr out →
      (∃ tr1 tr2 x, tr = tr1 ++ tr2 ∧ Out p tr1 (.ok x) ∧ Out (f x) tr2 out) ∨
      (∃ e, Out p tr (.error e) ∧ out = .error e) := by
  induction p generalizing tr with
  | done x => exact fun h => .inl ⟨[], tr, x, rfl, .done x, h⟩
  | fail e => exact fun h => .inr ⟨e, ((out_fail _ _ _).mp h).1 ▸ .fail e, ((out_fail _ _ _).mp h).2⟩
  | send c k ih =>
    intro h
    obtain ⟨r, tr', rfl, h'⟩ := (out_send _ _ _ _).mp h
    rcases ih r tr' h' with ⟨tr1, tr2, x, rfl, h1, h2⟩ | ⟨e, h1, h2⟩
    · exact .inl ⟨(c, r) :: tr1, tr2, x, rfl, .send c k r tr1 _ h1, h2⟩
    · exact .inr ⟨e, .send c k r tr' _ h1, h2⟩

/-- Running against the recording responder is the un-recorded run, and appends to the
record an exchange that does not depend on what was recorded before and is an `Out`. -/
theorem run_traced (step : σ → Cmd → Resp × σ) (p : Prog α) (s : σ) :
    ∃ ext, Out p ext (p.run step s).1 ∧
      ∀ tr, p.run (traced step) (s, tr) = ((p.run step s).1, (p.run step s).2, tr ++ ext) := by
  induction p generalizing s with
  | done a => exact ⟨[], .done a, fun tr => by rw [List.append_nil]; rfl⟩
  | fail e => exact ⟨[], .fail e, fun tr => by rw [List.append_nil]; rfl⟩
  | send c k ih =>
    obtain ⟨ext, ho, h⟩ := ih (step s c).1 (step s c).2
    exact ⟨(c, (step s c).1) :: ext, .send c k _ ext _ ho, fun tr => by
      rw [run_send, run_send, List.append_cons]; exact h _⟩

theorem run_traced_fst (step : σ → Cmd → Resp × σ) (p : Prog α) (s : σ) (tr : List (Cmd × Resp)) :
    ((p.run (traced step) (s, tr)).1, (p.run (traced step) (s, tr)).2.1) = p.run step s := by
  obtain ⟨ext, -, h⟩ := run_traced step p s
  rw [h]

theorem run_traced_prefix (step : σ → Cmd → Resp × σ) (p : Prog α) (s : σ) (tr : List (Cmd × Resp)) :
    ∃ ext, (p.run (traced step) (s, tr)).2.2 = tr ++ ext ∧
      ∀ tr', (p.run (traced step) (s, tr')).2.2 = tr' ++ ext := by
  obtain ⟨ext, -, h⟩ := run_traced step p s
  exact ⟨ext, by rw [h], fun tr' => by rw [h]⟩

/-- every run against every responder is an `Out` -/
theorem run_traced_out (step : σ → Cmd → Resp × σ) (p : Prog α) (s : σ) (tr : List (Cmd × Resp)) :
    ∃ ext, (p.run (traced step) (s, tr)).2.2 = tr ++ ext ∧
      Out p ext (p.run (traced step) (s, tr)).1 := by
  obtain ⟨ext, ho, h⟩ := run_traced step p s
  exact ⟨ext, by rw [h], by rw [h]; exact ho⟩

end Prog
end DaliVerif.DevMem
