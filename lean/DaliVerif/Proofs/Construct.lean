import DaliVerif.Proofs.DecodeEvent
import DaliVerif.Proofs.Distinct
import DaliVerif.Model.Construct
/-!
# C02/C03: decoding what the constructors build

`WF T c` says that `c` is an object the constructors accept, `frameOf c` is the frame the standard gives it, and
`TableOK2` is the further decidable condition on the registries (dispatch orders, unique keys, no overlaps) under
which `encode c = frameOf c` and that frame decodes back to `c`: one `*_roundtrip` per class family, collected in
`frame_standard` and `decode_encode`.
-/
set_option linter.unusedSimpArgs false
namespace DaliVerif.Cmd
open Frame Spec

def isSpecialEntry : DevEntry → Bool
  | .special _ => true
  | _ => false

def specialsOf (l : List DevEntry) : List DevSpecialClass :=
  l.filterMap fun e => match e with | .special c => some c | _ => none

/-- two special device command classes could match the same frame -/
def overlap (a b : DevSpecialClass) : Bool :=
  a.addr == b.addr && (a.kind == .two || b.kind == .two || a.inst == b.inst)

def concrete (c : DevSpecialClass) : Bool := c.kind == .zero || c.kind == .one || c.kind == .two

def keysUnique {α β} [BEq α] (l : List (α × β)) : Bool :=
  l.all fun e => (l.filter fun e' => e'.1 == e.1).length == 1

/-- dispatch orders are the ones the model's converse proof relies on, special
address bytes decode to no address, special device classes do not overlap,
registry keys are unique -/
def TableOK2 (T : Tables) : Prop :=
  TableOK T ∧
  T.framesizes = [(16, [.gear]), (24, [.device, .event])] ∧
  T.gearCommands = [.unknown, .standard, .dapc, .special] ∧
  T.devCommands.take 3 = [.unknown, .stdDevice, .stdInstance] ∧
  (T.devCommands.drop 3).all isSpecialEntry = true ∧
  T.specialOpcodes.all (fun e => gearPartition (e.1 / 2 % 128) == none) = true ∧
  ((specialsOf T.devCommands).filter concrete).all
    (fun c => c.addr % 2 == 1 && devicePartition true (c.addr / 2 % 128) == none) = true ∧
  ((specialsOf T.devCommands).filter concrete).Pairwise (fun a b => overlap a b = false) ∧
  keysUnique T.stdOpcodes = true ∧ keysUnique T.specialOpcodes = true ∧
  keysUnique T.devOpcodes = true ∧ keysUnique T.instOpcodes = true ∧
  keysUnique T.instanceTypes = true ∧ keysUnique T.pushEvents = true

instance (T : Tables) : Decidable (TableOK2 T) := by unfold TableOK2; infer_instance

theorem lookup_of_mem {α β} [BEq α] [LawfulBEq α] {l : List (α × β)} (hu : keysUnique l = true)
    {k : α} {v : β} (h : (k, v) ∈ l) : lookup l k = some v := by
  unfold lookup
  cases hf : l.find? (fun e => e.1 == k) with
  | none => exact absurd (List.find?_eq_none.mp hf (k, v) h) (by simp)
  | some e =>
    -- the entries with key `k` form a one-element list that holds both `(k, v)` and the entry found
    obtain ⟨a, ha⟩ := List.length_eq_one_iff.mp (by simpa using List.all_eq_true.mp hu (k, v) h)
    have h1 : (k, v) ∈ l.filter (fun e' => e'.1 == k) := List.mem_filter.mpr ⟨h, by simp⟩
    have hk := List.find?_some hf
    have h2 : e ∈ l.filter (fun e' => e'.1 == k) := List.mem_filter.mpr ⟨List.mem_of_find?_eq_some hf, hk⟩
    rw [ha, List.mem_singleton] at h1 h2
    rw [h2, ← h1]; rfl

/-- `keysUnique` compares all pairs; for a large registry `decide` is given the one-pass `distinctNat` on a numeric
code of the keys instead -/
theorem keysUnique_of_distinct {α β} [BEq α] [LawfulBEq α] (code : α → Nat) (l : List (α × β))
    (h : distinctNat 0 (l.map fun e => code e.1) = true) : keysUnique l = true := by
  have hk : (l.map (·.1)).Nodup :=
    List.Pairwise.of_map (S := (· ≠ ·)) code (fun _ _ hne e => hne (congrArg code e))
      (by rw [List.map_map]; exact (distinctNat_nodup _ 0 h).2)
  simp only [keysUnique, List.all_eq_true, beq_iff_eq]
  intro e he
  have := hk.count (a := e.1)
  rw [if_pos (List.mem_map_of_mem he)] at this
  rwa [List.count_eq_countP, List.countP_map, List.countP_eq_length_filter] at this

/-- legal objects: what the constructors accept (class registered, fields in range, address of the right kind)
and decoding can give back.  Left out: the three catch-all command classes (built from a frame, not from
fields); an `UnknownEvent` whose instance type and data a registered event class claims (its frame decodes to that
class); an instance command with the `Device` instance byte 0xFE (bits 16..8 of its frame read `0x1FE`, the mark of
a device command without instance) -/
def WF (T : Tables) : Cmd → Prop
  | .generic .. => False
  | .unknownGear .. => False
  | .unknownDevice .. => False
  | .dapc a p => a.Valid ∧ a.isGear = true ∧ p ≤ 255
  | .standard c a p =>
      ((c.dt, c.cmdval + p), c) ∈ T.stdOpcodes ∧ a.Valid ∧ a.isGear = true ∧
      (if c.hasparam then p ≤ 15 else p = 0)
  | .special c p =>
      (c.cmdval, c) ∈ T.specialOpcodes ∧ c.kind = .plain ∧ (if c.hasparam then p ≤ 255 else p = 0)
  | .shortSpecial c addr =>
      (c.cmdval, c) ∈ T.specialOpcodes ∧ c.kind = .shortAddr ∧ (∀ a, addr = some a → a ≤ 63)
  | .initialise c b addr =>
      (c.cmdval, c) ∈ T.specialOpcodes ∧ c.kind = .initialise ∧ (∀ a, addr = some a → a ≤ 63 ∧ b = false)
  | .devStd c a => (c.opcode, c) ∈ T.devOpcodes ∧ a.Valid ∧ a.isGear = false
  | .devInst c a i =>
      (c.opcode, c) ∈ T.instOpcodes ∧ a.Valid ∧ a.isGear = false ∧ i.Canonical ∧ i ≠ .device
  | .devSpecial c p1 p2 =>
      .special c ∈ T.devCommands ∧
      (match c.kind with
       | .zero => p1 = c.inst ∧ p2 = 0
       | .one => p1 = c.inst ∧ p2 ≤ 255
       | .two => p1 ≤ 255 ∧ p2 ≤ 255
       | _ => False)
  | .event cls t src body =>
      SrcOK src ∧ t ≤ 31 ∧
      (match body with
       | .pushbutton pc =>
           cls = pc.name ∧ (pc.info, pc) ∈ T.pushEvents ∧
           ∃ et, (t, et) ∈ T.instanceTypes ∧ et.kind = .pushbutton
       | .occupancy .. => ∃ et, (t, et) ∈ T.instanceTypes ∧ et.kind = .occupancy ∧ et.name = cls
       | .light v => v < 1024 ∧ ∃ et, (t, et) ∈ T.instanceTypes ∧ et.kind = .light ∧ et.name = cls
       | .unknown _ => False)
  | .unknownEvent t src data =>
      SrcOK src ∧ data < 1024 ∧ (srcHasType src = true → 0 ≤ t ∧ t ≤ 31) ∧
      eventOfType T t src data = .unknownEvent t src data
  | .ambiguous sa inum data => sa ≤ 63 ∧ inum ≤ 31 ∧ data < 1024

structure Table2Facts (T : Tables) : Prop where
  base : TableFacts T
  fs : T.framesizes = [(16, [.gear]), (24, [.device, .event])]
  gearOrder : T.gearCommands = [.unknown, .standard, .dapc, .special]
  dev3 : T.devCommands.take 3 = [.unknown, .stdDevice, .stdInstance]
  devRest : (T.devCommands.drop 3).all isSpecialEntry = true
  specialNoAddr : ∀ e ∈ T.specialOpcodes, gearPartition (e.1 / 2 % 128) = none
  devSpecialNoAddr : ∀ c ∈ (specialsOf T.devCommands).filter concrete,
    c.addr % 2 = 1 ∧ devicePartition true (c.addr / 2 % 128) = none
  noOverlap : ((specialsOf T.devCommands).filter concrete).Pairwise (fun a b => overlap a b = false)
  uStd : keysUnique T.stdOpcodes = true
  uSpecial : keysUnique T.specialOpcodes = true
  uDev : keysUnique T.devOpcodes = true
  uInst : keysUnique T.instOpcodes = true
  uTypes : keysUnique T.instanceTypes = true
  uPush : keysUnique T.pushEvents = true

theorem TableOK2.facts {T : Tables} (h : TableOK2 T) : Table2Facts T := by
  obtain ⟨h0, h1, h2, h3, h4, h5, h6, h7, h8, h9, h10, h11, h12, h13⟩ := h
  refine ⟨h0.facts, h1, h2, h3, h4, ?_, ?_, h7, h8, h9, h10, h11, h12, h13⟩
  · intro e he
    have := (List.all_eq_true.mp h5) e he
    simpa using this
  · intro c hc
    have := (List.all_eq_true.mp h6) c hc
    simpa using this

/-- **the frame the standard assigns to an object** (IEC 62386-102 §7: `YAAAAAAS`
address byte then opcode/level; Table 16: fixed first byte then data; -103 §7:
address byte with bit 16 = 1, instance byte, opcode; Table 22: three fixed/data
bytes; Table 3: event source bits then ten information bits) -/
def frameOf : Cmd → Nat
  | .generic _ d => d
  | .unknownGear d => d
  | .unknownDevice d => d
  | .standard c a p => 512 * Addr.addrByte a + 256 + c.cmdval + p
  | .dapc a p => 512 * Addr.addrByte a + p
  | .special c p => c.cmdval * 256 + p
  | .shortSpecial c none => c.cmdval * 256 + 0xff
  | .shortSpecial c (some a) => c.cmdval * 256 + (2 * a + 1)
  | .initialise c true none => c.cmdval * 256 + 0
  | .initialise c false none => c.cmdval * 256 + 0xff
  | .initialise c _ (some a) => c.cmdval * 256 + (2 * a + 1)
  | .devStd c a => 131072 * Addr.addrByte a + 0x1FE00 + c.opcode
  | .devInst c a i => 131072 * Addr.addrByte a + 65536 + 256 * i.byte + c.opcode
  | .devSpecial c p1 p2 => (c.addr * 256 + p1) * 256 + p2
  | .event _ t src body => srcBits t src + dataOf body
  | .unknownEvent t src d => srcBits t.toNat src + d
  | .ambiguous sa inum d => srcBits 0 (.deviceInstance sa inum) + d

def bitsOf : Cmd → Nat
  | .generic b _ => b
  | .unknownGear _ | .standard .. | .dapc .. | .special .. | .shortSpecial .. | .initialise .. => 16
  | _ => 24

theorem decode16 (T : Tables) (hT : Table2Facts T) (d dt : Nat) (m : Option InstMap) :
    decode T 16 d dt m =
      ((stdFromFrame T ⟨16, d⟩ dt).orElse fun _ =>
       (dapcFromFrame T ⟨16, d⟩).orElse fun _ => specialFromFrame T ⟨16, d⟩).getD (.unknownGear d) := by
  unfold decode gearFromFrame
  simp only [hT.fs, hT.gearOrder, lookup, List.find?_cons, beq_self_eq_true, Option.map_some,
    List.findSome?_cons, Option.getD_some]
  cases stdFromFrame T ⟨16, d⟩ dt <;> cases dapcFromFrame T ⟨16, d⟩ <;>
    cases specialFromFrame T ⟨16, d⟩ <;> rfl

theorem std_roundtrip (T : Tables) (hT : Table2Facts T) (c : StdClass) (a : Addr) (p : Nat)
    (m : Option InstMap) (h : WF T (.standard c a p)) :
    encode (.standard c a p) = .ok ⟨16, frameOf (.standard c a p)⟩ ∧ decode T 16 (frameOf (.standard c a p)) c.dt m = .standard c a p := by
  obtain ⟨hmem, hv, hg, hp⟩ := h
  obtain ⟨_, hc, hrel⟩ := (stdEntryOK_iff _ _).mp (hT.base.std _ hmem)
  have hb := Addr.addrByte_lt a hv
  refine ⟨std_encode c a p hc hp (fun hh => by rw [if_pos hh] at hrel; exact hrel.1) hv hg, ?_⟩
  generalize hd : frameOf (.standard c a p) = d
  replace hd : d = 512 * Addr.addrByte a + 256 + c.cmdval + p := hd.symm
  -- the parameter nibble is read back: it sits under the opcode's zero low nibble, or is absent
  have hpar : c.cmdval + p < 256 ∧ (if c.hasparam then d % 16 else 0) = p := by
    cases hh : c.hasparam <;> simp only [hh, Bool.false_eq_true, if_false, if_true] at hrel hp ⊢ <;> omega
  rw [decode16 T hT, stdFromFrame_eq, if_pos (by omega),
    (Addr.fromFrame_gear_iff _ hT.base.order d a).mpr ⟨hv, hg, by omega⟩,
    show d % 256 = c.cmdval + p by omega, lookup_of_mem hT.uStd hmem]
  exact congrArg (Cmd.standard c a) hpar.2

theorem dapc_roundtrip (T : Tables) (hT : Table2Facts T) (a : Addr) (p dt : Nat)
    (m : Option InstMap) (h : WF T (.dapc a p)) :
    encode (.dapc a p) = .ok ⟨16, frameOf (.dapc a p)⟩ ∧ decode T 16 (frameOf (.dapc a p)) dt m = .dapc a p := by
  obtain ⟨hv, hg, hp⟩ := h
  have hb := Addr.addrByte_lt a hv
  refine ⟨dapc_encode a p hv hg hp, ?_⟩
  generalize hd : frameOf (.dapc a p) = d
  replace hd : d = 512 * Addr.addrByte a + p := hd.symm
  rw [decode16 T hT, stdFromFrame_eq, dapcFromFrame_eq, if_neg (by omega), if_neg (by omega),
    (Addr.fromFrame_gear_iff _ hT.base.order d a).mpr ⟨hv, hg, by omega⟩, show d % 256 = p by omega]
  rfl

/-- a frame whose upper byte is a special command's opcode decodes through
`_SpecialCommand` only (no address): to what that class's `from_frame` reads -/
theorem decode16_special (T : Tables) (hT : Table2Facts T) (c : SpecialClass)
    (hmem : (c.cmdval, c) ∈ T.specialOpcodes) (x : Nat) (hx : x < 256) (dt : Nat)
    (m : Option InstMap) (r : Cmd) (hr : specialClassFromFrame c ⟨16, c.cmdval * 256 + x⟩ = some r) :
    decode T 16 (c.cmdval * 256 + x) dt m = r := by
  obtain ⟨_, hlt, _⟩ := (specialEntryOK_iff _ _).mp (hT.base.special _ hmem)
  have hna := hT.specialNoAddr _ hmem
  simp only at hna hlt
  have hpart : Addr.fromFrame T.addrOrder ⟨16, c.cmdval * 256 + x⟩ = none := by
    rw [Addr.fromFrame_eq_partition _ hT.base.order]
    simp only [partition, if_true]
    have : (c.cmdval * 256 + x) / 512 % 128 = c.cmdval / 2 % 128 := by omega
    rw [this]; exact hna
  have hop : (c.cmdval * 256 + x) / 256 % 256 = c.cmdval := by omega
  rw [decode16 T hT]
  simp only [stdFromFrame, dapcFromFrame, hpart, specialFromFrame, slice, getSliceRaw_eq,
    Nat.reducePow, Nat.reduceAdd, Nat.reduceSub, Nat.div_one, hop, lookup_of_mem hT.uSpecial hmem, hr]
  cases bit ⟨16, c.cmdval * 256 + x⟩ 8 <;> rfl

theorem special_roundtrip (T : Tables) (hT : Table2Facts T) (c : SpecialClass) (p dt : Nat)
    (m : Option InstMap) (h : WF T (.special c p)) :
    encode (.special c p) = .ok ⟨16, frameOf (.special c p)⟩ ∧ decode T 16 (frameOf (.special c p)) dt m = .special c p := by
  obtain ⟨hmem, hkind, hp⟩ := h
  obtain ⟨_, hlt, _⟩ := (specialEntryOK_iff _ _).mp (hT.base.special _ hmem)
  have hp' : p ≤ 255 ∧ (c.hasparam = false → p = 0) := by
    cases hh : c.hasparam <;> simp only [hh, Bool.false_eq_true, if_false, if_true] at hp <;> simp <;> omega
  refine ⟨special_encode c p hlt hp'.1 hp'.2, decode16_special T hT c hmem p (by omega) dt m _ ?_⟩
  rw [specialClassFromFrame_byte c hlt p (by omega), hkind]
  cases hh : c.hasparam
  · simp [hp'.2 hh]
  · rfl

theorem shortSpecial_roundtrip (T : Tables) (hT : Table2Facts T) (c : SpecialClass)
    (addr : Option Nat) (dt : Nat) (m : Option InstMap) (h : WF T (.shortSpecial c addr)) :
    encode (.shortSpecial c addr) = .ok ⟨16, frameOf (.shortSpecial c addr)⟩ ∧ decode T 16 (frameOf (.shortSpecial c addr)) dt m = .shortSpecial c addr := by
  obtain ⟨hmem, hkind, ha⟩ := h
  obtain ⟨_, hlt, _⟩ := (specialEntryOK_iff _ _).mp (hT.base.special _ hmem)
  cases addr with
  | none =>
    refine ⟨shortSpecial_encode_none c hlt, decode16_special T hT c hmem 0xff (by omega) dt m _ ?_⟩
    rw [specialClassFromFrame_byte c hlt 0xff (by omega), hkind]
    rfl
  | some a =>
    have ha' : a ≤ 63 := ha a rfl
    refine ⟨shortSpecial_encode_some c a hlt ha', decode16_special T hT c hmem (2 * a + 1) (by omega) dt m _ ?_⟩
    rw [specialClassFromFrame_byte c hlt _ (by omega), hkind]
    have e : (2 * a + 1) / 2 % 64 = a := by omega
    simp only [e, if_neg (show ¬ 2 * a + 1 = 0xff by omega),
      if_pos (show 2 * a + 1 < 128 ∧ (2 * a + 1) % 2 = 1 by omega)]

theorem initialise_roundtrip (T : Tables) (hT : Table2Facts T) (c : SpecialClass) (b : Bool)
    (addr : Option Nat) (dt : Nat) (m : Option InstMap) (h : WF T (.initialise c b addr)) :
    encode (.initialise c b addr) = .ok ⟨16, frameOf (.initialise c b addr)⟩ ∧ decode T 16 (frameOf (.initialise c b addr)) dt m = .initialise c b addr := by
  obtain ⟨hmem, hkind, ha⟩ := h
  obtain ⟨_, hlt, _⟩ := (specialEntryOK_iff _ _).mp (hT.base.special _ hmem)
  cases addr with
  | none =>
    cases b
    · refine ⟨initialise_encode_none c false hlt, decode16_special T hT c hmem 0xff (by omega) dt m _ ?_⟩
      rw [specialClassFromFrame_byte c hlt 0xff (by omega), hkind]
      rfl
    · refine ⟨initialise_encode_none c true hlt, decode16_special T hT c hmem 0 (by omega) dt m _ ?_⟩
      rw [specialClassFromFrame_byte c hlt 0 (by omega), hkind]
      rfl
  | some a =>
    obtain ⟨ha', rfl⟩ := ha a rfl
    refine ⟨initialise_encode_some c a hlt ha', decode16_special T hT c hmem (2 * a + 1) (by omega) dt m _ ?_⟩
    rw [specialClassFromFrame_byte c hlt _ (by omega), hkind]
    have e : (2 * a + 1) / 2 % 64 = a := by omega
    simp only [e, if_neg (show ¬ 2 * a + 1 = 0 by omega), if_neg (show ¬ 2 * a + 1 = 0xff by omega),
      if_pos (show 2 * a + 1 < 128 ∧ (2 * a + 1) % 2 = 1 by omega)]

theorem overlap_symm (a b : DevSpecialClass) (h : overlap a b = false) : overlap b a = false := by
  simp only [overlap, Bool.and_eq_false_iff, Bool.or_eq_false_iff, beq_eq_false_iff_ne, ne_eq] at *
  rcases h with h | ⟨⟨h1, h2⟩, h3⟩
  · left; exact fun e => h e.symm
  · right; exact ⟨⟨h2, h1⟩, fun e => h3 e.symm⟩

theorem decode24 (T : Tables) (hT : Table2Facts T) (d dt : Nat) (m : Option InstMap) :
    decode T 24 d dt m =
      ((deviceFromFrame T ⟨24, d⟩).orElse fun _ => eventFromFrame T ⟨24, d⟩ m).getD (.generic 24 d) := by
  unfold decode
  simp only [hT.fs, lookup, List.find?_cons, Option.map_some, List.findSome?_cons]
  have : ((16 : Nat) == 24) = false := by decide
  simp only [this, beq_self_eq_true, Option.map_some, List.findSome?_cons, List.findSome?_nil]
  cases deviceFromFrame T ⟨24, d⟩ <;> cases eventFromFrame T ⟨24, d⟩ m <;> rfl

theorem deviceFromFrame_eq (T : Tables) (hT : Table2Facts T) (d : Nat) (h16 : d / 65536 % 2 = 1) :
    deviceFromFrame T ⟨24, d⟩ = some
      (((stdDeviceFromFrame T ⟨24, d⟩).orElse fun _ =>
        (stdInstanceFromFrame T ⟨24, d⟩).orElse fun _ =>
        (T.devCommands.drop 3).findSome? fun e =>
          match e with
          | .special c => devSpecialFromFrame c ⟨24, d⟩
          | _ => none).getD (.unknownDevice d)) := by
  unfold deviceFromFrame
  simp only [bit, bitTest_eq, h16, decide_true, Bool.not_true, Bool.false_eq_true, if_false,
    Nat.reducePow]
  congr 1
  conv => lhs; rw [← List.take_append_drop 3 T.devCommands, hT.dev3]
  simp only [List.cons_append, List.nil_append, List.findSome?_cons]
  have hrest : ∀ (g₁ g₂ : DevEntry → Option Cmd), (∀ e, isSpecialEntry e = true → g₁ e = g₂ e) →
      (T.devCommands.drop 3).findSome? g₁ = (T.devCommands.drop 3).findSome? g₂ := by
    intro g₁ g₂ hg
    have hall := List.all_eq_true.mp hT.devRest
    generalize T.devCommands.drop 3 = L at hall
    induction L with
    | nil => rfl
    | cons x xs ih =>
      simp only [List.findSome?_cons, hg x (hall x (by simp))]
      cases g₂ x with
      | some _ => rfl
      | none => exact ih (fun e he => hall e (by simp [he]))
  rw [hrest _ (fun e => match e with | .special c => devSpecialFromFrame c ⟨24, d⟩ | _ => none)
    (by intro e he; cases e <;> simp [isSpecialEntry] at he ⊢)]
  cases stdDeviceFromFrame T ⟨24, d⟩ <;> cases stdInstanceFromFrame T ⟨24, d⟩ <;> rfl

theorem devStd_roundtrip (T : Tables) (hT : Table2Facts T) (c : DevClass) (a : Addr) (dt : Nat)
    (m : Option InstMap) (h : WF T (.devStd c a)) :
    encode (.devStd c a) = .ok ⟨24, frameOf (.devStd c a)⟩ ∧ decode T 24 (frameOf (.devStd c a)) dt m = .devStd c a := by
  obtain ⟨hmem, hv, hg⟩ := h
  obtain ⟨_, hlt, _⟩ := (devEntryOK_iff _ _).mp (hT.base.dev _ hmem)
  have hb := Addr.addrByte_lt a hv
  refine ⟨devStd_encode c a hlt hv hg, ?_⟩
  generalize hd : frameOf (.devStd c a) = d
  replace hd : d = 131072 * Addr.addrByte a + 0x1FE00 + c.opcode := hd.symm
  rw [decode24 T hT, deviceFromFrame_eq T hT d (by omega), stdDeviceFromFrame_eq, if_pos (by omega),
    (Addr.fromFrame_device_iff _ hT.base.order d a).mpr ⟨by omega, hv, hg, by omega⟩,
    show d % 256 = c.opcode by omega, lookup_of_mem hT.uDev hmem]
  rfl

theorem byte_fe_device (i : Inst) (hc : i.Canonical) (h : i.byte = 0xFE) : i = .device := by
  have := Inst.ofByteModel_byte i hc
  rw [h] at this
  rw [← this]; decide

theorem devInst_roundtrip (T : Tables) (hT : Table2Facts T) (c : DevClass) (a : Addr) (i : Inst)
    (dt : Nat) (m : Option InstMap) (h : WF T (.devInst c a i)) :
    encode (.devInst c a i) = .ok ⟨24, frameOf (.devInst c a i)⟩ ∧ decode T 24 (frameOf (.devInst c a i)) dt m = .devInst c a i := by
  obtain ⟨hmem, hv, hg, hcan, hnd⟩ := h
  obtain ⟨_, hlt, _⟩ := (devEntryOK_iff _ _).mp (hT.base.inst _ hmem)
  have hb := Addr.addrByte_lt a hv
  have hib := Inst.byte_lt i hcan.1
  have hfe : i.byte ≠ 0xFE := fun e => hnd (byte_fe_device i hcan e)
  refine ⟨devInst_encode c a i hlt hv hg hib, ?_⟩
  generalize hd : frameOf (.devInst c a i) = d
  replace hd : d = 131072 * Addr.addrByte a + 65536 + 256 * i.byte + c.opcode := hd.symm
  rw [decode24 T hT, deviceFromFrame_eq T hT d (by omega), stdDeviceFromFrame_eq, if_neg (by omega),
    stdInstanceFromFrame_eq, if_pos (by omega),
    (Addr.fromFrame_device_iff _ hT.base.order d a).mpr ⟨by omega, hv, hg, by omega⟩,
    show d % 256 = c.opcode by omega, lookup_of_mem hT.uInst hmem, show d / 256 % 256 = i.byte by omega,
    Inst.ofByteModel_byte i hcan]
  rfl

theorem mem_specialsOf {l : List DevEntry} {c : DevSpecialClass} (h : DevEntry.special c ∈ l) :
    c ∈ specialsOf l := by
  unfold specialsOf
  exact List.mem_filterMap.mpr ⟨.special c, h, rfl⟩

theorem devSpecial_match (c : DevSpecialClass) (d : Nat) (r : Cmd) (h : devSpecialFromFrame c ⟨24, d⟩ = some r) :
    concrete c = true ∧ c.addr = d / 65536 % 256 ∧ (c.kind = .two ∨ c.inst = d / 256 % 256) := by
  rw [devSpecialFromFrame_eq] at h
  cases hk : c.kind <;> simp [hk, concrete] at h ⊢ <;> simp [h]

theorem devSpecial_roundtrip (T : Tables) (hT : Table2Facts T) (c : DevSpecialClass) (p1 p2 dt : Nat)
    (m : Option InstMap) (h : WF T (.devSpecial c p1 p2)) :
    encode (.devSpecial c p1 p2) = .ok ⟨24, frameOf (.devSpecial c p1 p2)⟩ ∧ decode T 24 (frameOf (.devSpecial c p1 p2)) dt m = .devSpecial c p1 p2 := by
  obtain ⟨hmem, hk⟩ := h
  have hok := hT.base.devc _ hmem
  obtain ⟨ha, hp1, hp2⟩ : c.addr < 256 ∧ p1 < 256 ∧ p2 < 256 := by
    cases hkk : c.kind <;> simp only [hkk, devCmdOK, Bool.and_eq_true, decide_eq_true_eq] at hk hok <;> omega
  refine ⟨devSpecial_encode c p1 p2 ha (by omega) (by omega), ?_⟩
  generalize hd : frameOf (.devSpecial c p1 p2) = d
  replace hd : d = (c.addr * 256 + p1) * 256 + p2 := hd.symm
  have hbytes : d / 65536 % 256 = c.addr ∧ d / 256 % 256 = p1 ∧ d % 256 = p2 := by omega
  have hself : devSpecialFromFrame c ⟨24, d⟩ = some (.devSpecial c p1 p2) := by
    rw [devSpecialFromFrame_eq]
    cases hkk : c.kind <;> simp only [hkk] at hk ⊢ <;> simp [hk, hbytes]
  obtain ⟨hconc, _, hinst⟩ := devSpecial_match c d _ hself
  have hcmem : c ∈ (specialsOf T.devCommands).filter concrete :=
    List.mem_filter.mpr ⟨mem_specialsOf hmem, hconc⟩
  obtain ⟨hodd, hnoaddr⟩ := hT.devSpecialNoAddr c hcmem
  -- the first byte is no address, so the frame is neither a standard device nor an instance command
  have hpart : Addr.fromFrame T.addrOrder ⟨24, d⟩ = none := by
    rw [Addr.fromFrame_eq_partition _ hT.base.order]
    simp only [partition, Nat.reduceEqDiff, if_false, if_true, show d / 131072 % 128 = c.addr / 2 % 128 by omega,
      show d / 65536 % 2 = 1 by omega, decide_true]
    exact hnoaddr
  -- among the special classes only `c` matches: another match would overlap `c`
  have hfind : (T.devCommands.drop 3).findSome? (fun e =>
      match e with
      | .special c' => devSpecialFromFrame c' ⟨24, d⟩
      | _ => none) = some (.devSpecial c p1 p2) := by
    have hin : DevEntry.special c ∈ T.devCommands.drop 3 := by
      have := hmem
      rw [← List.take_append_drop 3 T.devCommands, hT.dev3] at this
      simpa using this
    apply findSome?_unique_mem _ _ _ _ (.special c) hin hself
    intro k hkm b' hb'
    cases k with
    | special c' =>
      obtain ⟨hconc', haddr', hinst'⟩ := devSpecial_match c' d _ hb'
      have hcc : c' = c := by
        apply Decidable.byContradiction
        intro hne
        have := pairwise_mem overlap_symm hT.noOverlap
          (List.mem_filter.mpr ⟨mem_specialsOf (List.mem_of_mem_drop hkm), hconc'⟩) hcmem hne
        rcases hinst with h | h <;> rcases hinst' with h' | h' <;> simp [overlap, haddr', hbytes, h, h'] at this
      subst hcc
      exact Option.some.inj (hself.symm.trans hb') |>.symm
    | _ => simp at hb'
  rw [decode24 T hT, deviceFromFrame_eq T hT d (by omega), hfind, stdDeviceFromFrame_eq, stdInstanceFromFrame_eq, hpart]
  simp only [ite_self]
  rfl

/-- the map resolves the source of a device/instance-scheme event to type `t` -/
def MapNames (m : Option InstMap) (t : Int) : EventSrc → Prop
  | .deviceInstance sa inum => (m.bind fun mm => mm.getType sa inum) = some t
  | _ => True

theorem eventFrame_decode (T : Tables) (t : Int) (src : EventSrc) (data : Nat) (m : Option InstMap)
    (hs : SrcOK src) (ht : srcHasType src = true → 0 ≤ t ∧ t ≤ 31) (hd : data < 1024)
    (hm : MapNames m t src) :
    eventFromFrame T ⟨24, srcBits t.toNat src + data⟩ m = some (eventOfType T t src data) := by
  have hc : srcHasType src = true → ((t.toNat : Nat) : Int) = t ∧ t.toNat ≤ 31 := fun h => by have := ht h; omega
  obtain ⟨hi, b15, lo, hhi, hb, hlo, e, hsel⟩ := srcBits_digits t.toNat src hs (fun h => (hc h).2)
  rw [e, eventFromFrame_digits T m hi b15 lo data hhi hb hlo hd]
  cases src <;> simp only at hsel
  case deviceInstance sa inum =>
    have hm' : (m.bind fun mm => mm.getType sa inum) = some t := hm
    simp only [hsel, hm', Nat.one_ne_zero, and_false, and_self, if_true, if_false]
  -- the other four schemes carry the type
  all_goals simp only [hsel, hc rfl, Nat.one_ne_zero, Nat.zero_ne_one, false_and, and_false, and_self, if_true, if_false]

/-- an event frame (bit 16 = 0) is never a device command -/
theorem decode24_event (T : Tables) (hT : Table2Facts T) (t : Nat) (src : EventSrc) (data : Nat)
    (hs : SrcOK src) (ht : srcHasType src = true → t ≤ 31) (hd : data < 1024) (dt : Nat)
    (m : Option InstMap) :
    decode T 24 (srcBits t src + data) dt m =
      (eventFromFrame T ⟨24, srcBits t src + data⟩ m).getD (.generic 24 (srcBits t src + data)) := by
  obtain ⟨_, h0, h16⟩ := srcBits_lt t src hs ht
  rw [decode24 T hT, deviceFromFrame_event T _ (by omega)]
  rfl

theorem event_roundtrip (T : Tables) (hT : Table2Facts T) (cls : String) (t : Nat) (src : EventSrc)
    (body : EventBody) (dt : Nat) (h : WF T (.event cls t src body)) :
    encode (.event cls t src body) = .ok ⟨24, frameOf (.event cls t src body)⟩ ∧
      decode T 24 (frameOf (.event cls t src body)) dt (mapFor (.event cls t src body)) = .event cls t src body := by
  obtain ⟨hs, ht, hbody⟩ := h
  have hmap : MapNames (mapFor (.event cls t src body)) (t : Int) src := by
    cases src <;> simp [MapNames, mapFor, InstMap.getType]
  -- decoding reaches the class selection with the type, source and information bits of the object
  have hdec : dataOf body < 1024 → decode T 24 (srcBits t src + dataOf body) dt (mapFor (.event cls t src body)) =
      eventOfType T (t : Int) src (dataOf body) := by
    intro hd
    have := eventFrame_decode T (t : Int) src _ _ hs (fun _ => by omega) hd hmap
    rw [Int.toNat_natCast] at this
    rw [decode24_event T hT t src _ hs (fun _ => ht) hd, this]; rfl
  have hneg : ¬ ((t : Int) < 0) := by omega
  -- the information bits fit, and the class selected for them is the object's
  have hsel : dataOf body < 1024 ∧ eventOfType T (t : Int) src (dataOf body) = .event cls t src body := by
    cases body with
    | pushbutton pc =>
      obtain ⟨hcls, hpm, et, hem, hek⟩ := hbody
      refine ⟨((pushOK_iff _ _).mp (hT.base.push _ hpm)).2, ?_⟩
      simp only [eventOfType, dataOf, hneg, if_false, Int.toNat_natCast, lookup_of_mem hT.uTypes hem, hek,
        lookup_of_mem hT.uPush hpm, hcls]
    | occupancy a b c d =>
      obtain ⟨et, hem, hek, hname⟩ := hbody
      obtain ⟨hx, f0, f1, f2, f3⟩ := occ_read a b c d
      refine ⟨Nat.lt_trans hx (by decide), ?_⟩
      simp only [eventOfType, dataOf, hneg, if_false, Int.toNat_natCast, lookup_of_mem hT.uTypes hem, hek,
        (occ_iff _).mpr hx, bne_self_eq_false, Bool.false_eq_true, f0, f1, f2, f3, hname]
    | light v =>
      obtain ⟨hv, et, hem, hek, hname⟩ := hbody
      refine ⟨hv, ?_⟩
      simp only [eventOfType, dataOf, hneg, if_false, Int.toNat_natCast, lookup_of_mem hT.uTypes hem, hek, hname]
    | unknown x => exact absurd hbody id
  exact ⟨event_encode cls t src body hs (fun _ => ht) hsel.1, (hdec hsel.1).trans hsel.2⟩

theorem unknownEvent_roundtrip (T : Tables) (hT : Table2Facts T) (t : Int) (src : EventSrc)
    (data dt : Nat) (h : WF T (.unknownEvent t src data)) :
    encode (.unknownEvent t src data) = .ok ⟨24, frameOf (.unknownEvent t src data)⟩ ∧
      decode T 24 (frameOf (.unknownEvent t src data)) dt (mapFor (.unknownEvent t src data)) = .unknownEvent t src data := by
  obtain ⟨hs, hd, ht, hunk⟩ := h
  have hmap : MapNames (mapFor (.unknownEvent t src data)) t src := by
    cases src <;> simp [MapNames, mapFor, InstMap.getType]
  refine ⟨unknownEvent_encode t src data hs ht hd, ?_⟩
  show decode T 24 (srcBits t.toNat src + data) dt _ = _
  rw [decode24_event T hT t.toNat src data hs (fun h => by have := ht h; omega) hd,
    eventFrame_decode T t src data _ hs ht hd hmap, hunk]
  rfl

theorem ambiguous_roundtrip (T : Tables) (hT : Table2Facts T) (sa inum data dt : Nat)
    (h : WF T (.ambiguous sa inum data)) :
    encode (.ambiguous sa inum data) = .ok ⟨24, frameOf (.ambiguous sa inum data)⟩ ∧
      decode T 24 (frameOf (.ambiguous sa inum data)) dt none = .ambiguous sa inum data := by
  obtain ⟨hsa, hin, hd⟩ := h
  refine ⟨ambiguous_encode sa inum data hsa hin hd, ?_⟩
  show decode T 24 (srcBits 0 (.deviceInstance sa inum) + data) dt none = _
  rw [decode24_event T hT 0 (.deviceInstance sa inum) data ⟨hsa, hin⟩ (fun h => nomatch h) hd]
  obtain ⟨hi, b15, lo, hhi, hb, hlo, e, hsel⟩ :=
    srcBits_digits 0 (.deviceInstance sa inum) ⟨hsa, hin⟩ (fun h => nomatch h)
  rw [e, eventFromFrame_digits T none hi b15 lo data hhi hb hlo hd]
  simp only [hsel, Nat.one_ne_zero, and_false, and_self, if_true, if_false]
  rfl

/-- every legal object's frame is the one the standard assigns, and that frame decodes to the object
(C03 `frame_is_standard`) -/
theorem frame_standard (T : Tables) (hT2 : TableOK2 T) (c : Cmd) (h : WF T c) :
    encode c = .ok ⟨bitsOf c, frameOf c⟩ ∧
    decode T (bitsOf c) (frameOf c) (dtOf c) (mapFor c) = c := by
  have hT := hT2.facts
  cases c with
  | generic b d => exact absurd h id
  | unknownGear d => exact absurd h id
  | unknownDevice d => exact absurd h id
  | dapc a p => exact dapc_roundtrip T hT a p 0 none h
  | standard cc a p => exact std_roundtrip T hT cc a p none h
  | special cc p => exact special_roundtrip T hT cc p 0 none h
  | shortSpecial cc a => exact shortSpecial_roundtrip T hT cc a 0 none h
  | initialise cc b a => exact initialise_roundtrip T hT cc b a 0 none h
  | devStd cc a => exact devStd_roundtrip T hT cc a 0 none h
  | devInst cc a i => exact devInst_roundtrip T hT cc a i 0 none h
  | devSpecial cc p1 p2 => exact devSpecial_roundtrip T hT cc p1 p2 0 none h
  | event cls t src body => exact event_roundtrip T hT cls t src body 0 h
  | unknownEvent t src data => exact unknownEvent_roundtrip T hT t src data 0 h
  | ambiguous sa inum data => exact ambiguous_roundtrip T hT sa inum data 0 h

/-- decode ∘ encode = id on legal objects (C02 `decode_construct`) -/
theorem decode_encode (T : Tables) (hT2 : TableOK2 T) (c : Cmd) (h : WF T c) :
    ∃ bits d, encode c = .ok ⟨bits, d⟩ ∧ decode T bits d (dtOf c) (mapFor c) = c :=
  ⟨bitsOf c, frameOf c, frame_standard T hT2 c h⟩

end DaliVerif.Cmd
