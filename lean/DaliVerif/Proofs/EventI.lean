import DaliVerif.Model.EventI
import DaliVerif.Model.Decode
import DaliVerif.Proofs.AddressI
/-!
# The integer-level forms of the event constructor equal the model's frame assembly

Both sides are written in continuation style, so each write of the constructor is proved once as a `Step` (what
it does to the integer contents against what the model does to the frame, for every continuation) and a scheme
of Table 3 is a chain of steps under `Step.seq`.
-/
namespace DaliVerif.EventI
open DaliVerif DaliVerif.Frame DaliVerif.Cmd DaliVerif.AddressI

/-- `k` (on integers) continues like `K` (on frames) for 24-bit frames -/
def Cont (k : Int → Except PyErr Int) (K : Frame → PyRes Frame) : Prop :=
  ∀ d : Nat, k d = dataOf (K ⟨24, d⟩)

theorem cont_iff {k K} : Cont k K ↔ Tie.Command.AddsLike 24 k K := Iff.rfl

theorem cont_done : Cont done (fun f => .ok f) := fun _ => rfl

theorem start_model (info : Nat) (k) (K) (hk : Cont k K) :
    start info k = dataOf ((newFrame 24 info).bind K) :=
  new_then 24 info (by decide) (cont_iff.mp hk)

/-- one step of a constructor: `s d k` does to the contents `d` what `S` does to the frame, and goes on with `k` -/
def Step (s : Int → (Int → Except PyErr Int) → Except PyErr Int) (S : Frame → PyRes Frame) : Prop :=
  ∀ k K, Cont k K → Cont (fun d => s d k) (fun f => (S f).bind K)

theorem Step.seq {s t S T} (hs : Step s S) (ht : Step t T) :
    Step (fun d k => s d (fun d => t d k)) (fun f => (S f).bind T) := by
  intro k K hk d
  dsimp only
  rw [bind_assoc']
  exact hs _ _ (ht k K hk) d

theorem Step.done {s S} (hs : Step s S) : Cont (fun d => s d done) S := by
  intro d
  rw [hs _ _ cont_done d]
  exact congrArg dataOf (bind_ok _)

/-- a step that cannot fail: `g` on the contents is `G` on naturals -/
theorem Step.pure (g : Int → Int) (G : Nat → Nat) (S : Frame → PyRes Frame)
    (hS : ∀ d, S ⟨24, d⟩ = .ok ⟨24, G d⟩) (hg : ∀ d : Nat, g d = (G d : Nat)) :
    Step (fun d k => k (g d)) S := by
  intro k K hk d
  show k (g d) = dataOf ((S ⟨24, d⟩).bind K)
  rw [hS, hg]
  exact hk _

theorem put1410_step (v : Int) : Step (put1410 · v) (Cmd.setSlice · 14 10 v) :=
  fun k K hk d => sliceWrite 14 10 5 16745471 (by decide) v d (cont_iff.mp hk)
theorem put2117_step (v : Int) : Step (put2117 · v) (Cmd.setSlice · 21 17 v) :=
  fun k K hk d => sliceWrite 21 17 5 12713983 (by decide) v d (cont_iff.mp hk)
theorem put90_step (v : Int) : Step (put90 · v) (Cmd.setSlice · 9 0 v) :=
  fun k K hk d => sliceWrite 9 0 10 16776192 (by decide) v d (cont_iff.mp hk)

theorem bitWrite (pos bit keep : Nat) (hp : pos < 24) (hb : 1 <<< pos = bit) (hk : mask 24 ^^^ (1 <<< pos) = keep)
    (b : Bool) (d : Nat) :
    Cmd.setBit ⟨24, d⟩ pos b = .ok ⟨24, if b then d ||| bit else d &&& keep⟩ := by
  have h : ((pos : Nat) : Int) < 24 := by omega
  subst hb hk
  cases b <;> simp [Cmd.setBit, natVal, Frame.setItem, PyVal.asInt?, h, PyVal.truthy, setBitRaw]

theorem bit_step (pos bit keep : Nat) (hp : pos < 24) (hb : 1 <<< pos = bit) (hk : mask 24 ^^^ (1 <<< pos) = keep)
    (b : Bool) (g : Int → Int) (hg : ∀ d : Nat, g d = ((if b then d ||| bit else d &&& keep : Nat) : Int)) :
    Step (fun d k => k (g d)) (Cmd.setBit · pos b) :=
  Step.pure g _ _ (bitWrite pos bit keep hp hb hk b) hg

theorem set23_step : Step (fun d k => k (set23 d)) (Cmd.setBit · 23 true) :=
  bit_step 23 8388608 _ (by decide) (by decide) rfl true _ (pyOr_ofNat · _)
theorem clr23_step : Step (fun d k => k (clr23 d)) (Cmd.setBit · 23 false) :=
  bit_step 23 _ 8388607 (by decide) rfl (by decide) false _ (pyAnd_ofNat · _)
theorem set22_step : Step (fun d k => k (set22 d)) (Cmd.setBit · 22 true) :=
  bit_step 22 4194304 _ (by decide) (by decide) rfl true _ (pyOr_ofNat · _)
theorem clr22_step : Step (fun d k => k (clr22 d)) (Cmd.setBit · 22 false) :=
  bit_step 22 _ 12582911 (by decide) rfl (by decide) false _ (pyAnd_ofNat · _)
theorem set15_step : Step (fun d k => k (set15 d)) (Cmd.setBit · 15 true) :=
  bit_step 15 32768 _ (by decide) (by decide) rfl true _ (pyOr_ofNat · _)
theorem clr15_step : Step (fun d k => k (clr15 d)) (Cmd.setBit · 15 false) :=
  bit_step 15 _ 16744447 (by decide) rfl (by decide) false _ (pyAnd_ofNat · _)

/-- the address step shared by the two schemes that carry a short address -/
theorem shortAddr_step (sa : Nat) :
    Step (fun d k => match AddressI.addDeviceShort d sa with
      | .error e => .error e
      | .ok d => k d)
    (fun f => (Addr.mkDeviceShort (natVal sa)).bind (fun a => a.addToFrame f)) := by
  intro k K hk d
  dsimp only [natVal]
  rw [addDeviceShort_model, bind_assoc']
  cases Addr.mkDeviceShort (.int (sa : Int)) with
  | error e => rfl
  | ok a => exact after_addToFrame a d (cont_iff.mp hk)

/-- the source-identification writes of every scheme of Table 3.  `.deviceInstance sa inum` is
`EventI.deviceInstance info inum sa` (`Gen.SrcEvent.ev_deviceInstance info itype sa inum`): that scheme carries no
instance type in the frame, so `itype` is dropped. -/
def ofSrc (info itype : Int) : EventSrc → (Int → Except PyErr Int) → Except PyErr Int
  | .device sa => EventI.device info itype sa
  | .deviceInstance sa inum => EventI.deviceInstance info inum sa
  | .deviceGroup g => EventI.deviceGroup info itype g
  | .instanceGroup g => EventI.instanceGroup info itype g
  | .inst inum => EventI.inst info itype inum

theorem src_model (info : Nat) (itype : Int) (src : EventSrc) {k K} (hk : Cont k K) :
    ofSrc info itype src k = dataOf ((newFrame 24 info).bind (fun f => (eventSrcToFrame f itype src).bind K)) := by
  cases src with
  | device sa =>
    exact start_model info _ _
      (((put1410_step itype).seq <| clr23_step.seq <| clr15_step.seq <| shortAddr_step sa) k K hk)
  | deviceInstance sa inum =>
    exact start_model info _ _
      (((put1410_step inum).seq <| clr23_step.seq <| set15_step.seq <| shortAddr_step sa) k K hk)
  | deviceGroup g =>
    exact start_model info _ _
      (((put1410_step itype).seq <| (put2117_step g).seq <| set23_step.seq <| clr22_step.seq clr15_step) k K hk)
  | instanceGroup g =>
    exact start_model info _ _
      (((put1410_step itype).seq <| (put2117_step g).seq <| set23_step.seq <| set22_step.seq clr15_step) k K hk)
  | inst inum =>
    exact start_model info _ _
      (((put2117_step itype).seq <| (put1410_step inum).seq <| set23_step.seq <| clr22_step.seq set15_step) k K hk)

theorem cont_light (v : Int) : Cont (EventI.light v) (fun f => Cmd.setSlice f 9 0 v) :=
  (put90_step v).done

/-- one flag write of the occupancy event, on integers and on naturals -/
theorem occ_bit (data d m keep : Nat) :
    (if pyAnd (data : Int) (m : Int) = (m : Int) then pyOr (d : Int) (m : Int) else pyAnd (d : Int) (keep : Int)) =
      ((if (data &&& m == m) then d ||| m else d &&& keep : Nat) : Int) := by
  rw [pyAnd_ofNat, pyOr_ofNat, pyAnd_ofNat]
  by_cases h : data &&& m = m
  · simp [h]
  · have h' : ¬ ((data &&& m : Nat) : Int) = (m : Int) := by omega
    simp [h, h']

/-- the last flag is written as the integer 1 or 0 (`1 if sensor_type == "movement" else 0`) -/
theorem bitWriteInt (pos bit keep : Nat) (hp : pos < 24) (hb : 1 <<< pos = bit) (hk : mask 24 ^^^ (1 <<< pos) = keep)
    (b : Bool) (d : Nat) :
    Frame.setItem ⟨24, d⟩ (.idx (natVal pos)) (.int (if b then 1 else 0)) =
      .ok ⟨24, if b then d ||| bit else d &&& keep⟩ := by
  have h : ((pos : Nat) : Int) < 24 := by omega
  subst hb hk
  cases b <;> simp [natVal, Frame.setItem, PyVal.asInt?, h, PyVal.truthy, setBitRaw]

theorem flag_step (data m keep : Nat) (S : Frame → PyRes Frame)
    (hS : ∀ d, S ⟨24, d⟩ = .ok ⟨24, if (data &&& m == m) then d ||| m else d &&& keep⟩) :
    Step (fun d k => k (if pyAnd data m = m then pyOr d m else pyAnd d keep)) S :=
  Step.pure _ _ S hS (occ_bit data · m keep)

/-- the model's four flag writes of the occupancy event -/
def occK (mv oc rp sm : Bool) (f : Frame) : PyRes Frame :=
  (Cmd.setBit f 0 mv).bind (fun f => (Cmd.setBit f 1 oc).bind (fun f => (Cmd.setBit f 2 rp).bind (fun f =>
    f.setItem (.idx (natVal 3)) (.int (if sm then 1 else 0)))))

theorem cont_occ (data : Nat) :
    Cont (EventI.occ data) (occK (data &&& 1 == 1) (data &&& 2 == 2) (data &&& 4 == 4) (data &&& 8 == 8)) :=
  ((flag_step data 1 16777214 (Cmd.setBit · 0 _) (bitWrite 0 _ _ (by decide) (by decide) (by decide) _)).seq <|
    (flag_step data 2 16777213 (Cmd.setBit · 1 _) (bitWrite 1 _ _ (by decide) (by decide) (by decide) _)).seq <|
    (flag_step data 4 16777211 (Cmd.setBit · 2 _) (bitWrite 2 _ _ (by decide) (by decide) (by decide) _)).seq <|
    flag_step data 8 16777207 _ (bitWriteInt 3 _ _ (by decide) (by decide) (by decide) _)).done

end DaliVerif.EventI
