import DaliVerif.Model.Conn
/-!
# The connection machine: callback language, reconnect limit, counter reset (C17)

One inductive invariant `CInv` over the reachable states of `Model/Conn.lean`
relates the machine state (`fd`, `pending`, `count`) to the state of the
callback automaton `lstep` after the callbacks emitted so far and to the ghost
attempt counter.  `step_CInv` shows every event — loss at any point, timer with
the device present or absent, handshake report, device vanishing/returning,
explicit `connect()` — preserves it, for every reconnect limit.  A second invariant `SInv` gives the literal
language (`failed` final) for runs in which `connect()` is called once only.
-/
namespace DaliVerif.Conn

theorem lrun_append (q : LState) (l m : List Status) :
    lrun q (l ++ m) = (lrun q l).bind (fun q' => lrun q' m) := by
  induction l generalizing q with
  | nil => simp [lrun]
  | cons x l ih =>
    simp only [List.cons_append, lrun]
    cases lstep q x with
    | none => rfl
    | some q' => exact ih q'

theorem lrun_snoc (q : LState) (l : List Status) (s : Status) :
    lrun q (l ++ [s]) = (lrun q l).bind (fun q' => lstep q' s) := by
  rw [lrun_append]
  cases lrun q l with
  | none => rfl
  | some q' => simp only [Option.bind_some, lrun]; cases lstep q' s <;> rfl

theorem lrun_last_disconnected {q0 q : LState} {l : List Status}
    (h : lrun q0 l = some q) (hl : l.getLast? = some .disconnected) : q = .down := by
  obtain ⟨l', rfl⟩ := List.getLast?_eq_some_iff.mp hl
  rw [lrun_snoc] at h
  cases h1 : lrun q0 l' with
  | none => simp [h1] at h
  | some q1 =>
    simp only [h1, Option.bind_some] at h
    cases q1 <;> simp [lstep] at h
    exact h.symm

theorem lrun_idle_last {q0 : LState} {l : List Status} (h : lrun q0 l = some .idle) :
    l = [] ∨ l.getLast? = some .failed := by
  rcases List.eq_nil_or_concat l with rfl | ⟨l', x, rfl⟩
  · exact Or.inl rfl
  · right
    rw [List.concat_eq_append] at h ⊢
    rw [lrun_snoc] at h
    cases h1 : lrun q0 l' with
    | none => simp [h1] at h
    | some q1 =>
      simp only [h1, Option.bind_some] at h
      cases q1 <;> cases x <;> simp [lstep] at h <;> simp

def nFailed : List Status → Nat
  | [] => 0
  | .failed :: l => nFailed l + 1
  | _ :: l => nFailed l

theorem nFailed_snoc (l : List Status) (s : Status) :
    nFailed (l ++ [s]) = nFailed l + (if s = .failed then 1 else 0) := by
  induction l with
  | nil => cases s <;> rfl
  | cons x l ih => cases x <;> simp [nFailed, ih] <;> omega

/-- the state `disconnect(reconnect=True)` hands to `_reconnect` -/
abbrev lost (c : Conn) : Conn :=
  { c with fd := false, hsLeft := 0, pending := false, present := false, attempts := 0,
           cbs := c.cbs ++ [.disconnected] }

/-- the state a failed timer-driven `connect()` hands to `_reconnect` -/
abbrev ticked (c : Conn) : Conn := { c with pending := false, attempts := c.attempts + 1 }

theorem step_cases {c c' : Conn} {e : Ev} (hs : step c e = some c') :
    match e with
    | .lose => c.fd = true ∧ c' = reconnect (lost c)
    | .timer => c.pending = true ∧ c' = openWith reconnect true { c with pending := false }
    | .hs => c.fd = true ∧ 0 < c.hsLeft ∧ c' = { c with hsLeft := c.hsLeft - 1 }
    | .gone => c.fd = false ∧ c' = { c with present := false }
    | .back => c' = { c with present := true }
    | .connect => c.pending = false ∧ c' = openWith reconnect false c := by
  cases e <;> simp only [step, stepWith] at hs ⊢ <;> (try split at hs) <;> simp_all

theorem step_lose {c : Conn} (hfd : c.fd = true) : step c .lose = some (reconnect (lost c)) := by
  simp only [step, stepWith, hfd, if_true]

theorem step_timer {c : Conn} (hp : c.pending = true) :
    step c .timer = some (openWith reconnect true { c with pending := false }) := by
  simp only [step, stepWith, hp, if_true]

theorem step_connect {c : Conn} (hp : c.pending = false) :
    step c .connect = some (openWith reconnect false c) := by
  simp only [step, stepWith, hp, Bool.false_eq_true, if_false]

theorem reconnect_cases (c : Conn) :
    (∃ l, c.limit = some l ∧ l < c.count + 1 ∧
      reconnect c = { c with count := 0, pending := false, cbs := c.cbs ++ [.failed],
                             failedAfter := c.failedAfter ++ [c.attempts] }) ∨
    ((∀ l, c.limit = some l → c.count + 1 ≤ l) ∧
      reconnect c = { c with count := c.count + 1, pending := true }) := by
  unfold reconnect
  cases hl : c.limit with
  | none => exact Or.inr ⟨fun _ h => (nomatch h), rfl⟩
  | some l =>
    by_cases h : l < c.count + 1
    · exact Or.inl ⟨l, rfl, h, by simp [h]⟩
    · exact Or.inr ⟨fun l' h' => (by cases h'; omega), by simp [h]⟩

theorem reconnect_keeps (x : Conn) :
    (reconnect x).limit = x.limit ∧ (reconnect x).hsSteps = x.hsSteps ∧ (reconnect x).fd = x.fd := by
  rcases reconnect_cases x with ⟨_, _, _, h⟩ | ⟨_, h⟩ <;> rw [h] <;> exact ⟨rfl, rfl, rfl⟩

theorem openWith_open (rc : Conn → Conn) (timed : Bool) {c : Conn} (hfd : c.fd = true) :
    openWith rc timed c = c := by
  simp [openWith, hfd]

theorem openWith_present (rc : Conn → Conn) (timed : Bool) {c : Conn} (hfd : c.fd = false)
    (hpr : c.present = true) :
    openWith rc timed c = { c with fd := true, hsLeft := c.hsSteps, count := 0, cbs := c.cbs ++ [.connected] } := by
  simp [openWith, hfd, hpr]

theorem openWith_absent (rc : Conn → Conn) (timed : Bool) {c : Conn} (hfd : c.fd = false)
    (hpr : c.present = false) :
    openWith rc timed c = rc { c with attempts := if timed then c.attempts + 1 else 0 } := by
  simp [openWith, hfd, hpr]

theorem step_timer_absent {c : Conn} (hp : c.pending = true) (hfd : c.fd = false) (hpr : c.present = false) :
    step c .timer = some (reconnect (ticked c)) := by
  rw [step_timer hp, openWith_absent (c := { c with pending := false }) _ _ hfd hpr]
  rfl

theorem step_timer_present {c : Conn} (hp : c.pending = true) (hfd : c.fd = false) (hpr : c.present = true) :
    step c .timer = some { c with pending := false, fd := true, hsLeft := c.hsSteps, count := 0,
                                  cbs := c.cbs ++ [.connected] } := by
  rw [step_timer hp, openWith_present (c := { c with pending := false }) _ _ hfd hpr]

theorem run_cons {st : Conn → Ev → Option Conn} {c c1 : Conn} {e : Ev} (h : st c e = some c1) (es : List Ev) :
    run st c (e :: es) = run st c1 es := by
  simp only [run, h]

theorem run_invariant {P : Conn → Prop} {es : List Ev}
    (hstep : ∀ e ∈ es, ∀ c c', P c → step c e = some c' → P c') {c c' : Conn} (h0 : P c)
    (hr : run step c es = some c') : P c' := by
  induction es generalizing c with
  | nil => cases hr; exact h0
  | cons e es ih =>
    simp only [run] at hr
    cases hs : step c e with
    | none => simp [hs] at hr
    | some c1 =>
      rw [hs] at hr
      exact ih (fun x hx => hstep x (List.mem_cons_of_mem _ hx)) (hstep e List.mem_cons_self c c1 h0 hs) hr

structure CInv (c : Conn) : Prop where
  /-- the callback automaton has not got stuck; it is `up` exactly while the device file is
  open, and while it is `down` a reconnect attempt is pending -/
  lang : ∃ q, lrun .idle c.cbs = some q ∧ (q = .up ↔ c.fd = true) ∧ (q = .down → c.pending = true)
  fdp : c.fd = true → c.pending = false
  /-- while a retry is pending `_reconnect_count` is one more than the failed attempts of THIS
  outage, which are fewer than the limit -/
  pend : c.pending = true → c.count = c.attempts + 1 ∧ ∀ l, c.limit = some l → c.attempts < l
  /-- `_reconnect_count` is zero whenever no retry is pending (reset on every successful
  `connect()` and on `failed`) -/
  idle : c.pending = false → c.count = 0
  /-- every `failed` was reported after exactly `limit` failed attempts -/
  failed : ∀ k, k ∈ c.failedAfter → c.limit = some k
  /-- one ghost entry per `failed` callback -/
  nfail : nFailed c.cbs = c.failedAfter.length
  hs : c.hsLeft ≤ c.hsSteps ∧ (c.fd = false → c.hsLeft = 0)

theorem CInv.fd_of_pending {c : Conn} (h : CInv c) (hp : c.pending = true) : c.fd = false := by
  cases hf : c.fd with
  | false => rfl
  | true => have := h.fdp hf; rw [hp] at this; cases this

theorem CInv.langOK {c : Conn} (h : CInv c) : c.langOK = true := by
  obtain ⟨q, hq, _⟩ := h.lang
  simp [Conn.langOK, hq]

/-- a driver object before `connect()` was ever called -/
def Conn.fresh (c : Conn) : Prop :=
  c.fd = false ∧ c.pending = false ∧ c.count = 0 ∧ c.cbs = [] ∧ c.failedAfter = [] ∧ c.hsLeft = 0

theorem fresh_CInv {c : Conn} (h : c.fresh) : CInv c := by
  obtain ⟨h1, h2, h3, h4, h5, h6⟩ := h
  refine ⟨⟨.idle, by rw [h4]; rfl, by simp [h1], by simp⟩, fun _ => h2, by simp [h2], fun _ => h3,
    by simp [h5], by simp [h4, h5, nFailed], by simp [h6]⟩

theorem reconnect_CInv {c : Conn} {q : LState} (hfd : c.fd = false) (hq : lrun .idle c.cbs = some q)
    (hne : q ≠ .up) (hc : c.count = c.attempts) (hle : ∀ l, c.limit = some l → c.count ≤ l)
    (hf : ∀ k, k ∈ c.failedAfter → c.limit = some k) (hn : nFailed c.cbs = c.failedAfter.length)
    (hh : c.hsLeft ≤ c.hsSteps ∧ (c.fd = false → c.hsLeft = 0)) : CInv (reconnect c) := by
  rcases reconnect_cases c with ⟨l, hl, hgt, h⟩ | ⟨harm, h⟩ <;> rw [h]
  · have hcl : c.count = l := by have := hle l hl; omega
    refine ⟨⟨.idle, ?_, by simp [hfd], by simp⟩, by simp [hfd], by simp, by simp, ?_, ?_, hh⟩
    · simp only [lrun_snoc, hq, Option.bind_some]
      cases q <;> simp_all [lstep]
    · intro k hk
      simp only [List.mem_append, List.mem_singleton] at hk
      rcases hk with hk | hk
      · exact hf k hk
      · subst hk; simp only; rw [hl, ← hc, hcl]
    · simp [nFailed_snoc, hn]
  · refine ⟨⟨q, hq, ?_, fun _ => rfl⟩, by simp [hfd], ?_, by simp, hf, hn, hh⟩
    · simp only [hfd, Bool.false_eq_true, iff_false]; exact hne
    · intro _
      refine ⟨by simp only; omega, fun l hl => ?_⟩
      have := harm l hl
      simp only at hl ⊢
      omega

theorem open_CInv {c : Conn} (timed : Bool) {q : LState} (hfd : c.fd = false) (hq : lrun .idle c.cbs = some q)
    (hne : q ≠ .up) (hp : c.pending = false) (hcnt : c.count = (if timed then c.attempts + 1 else 0))
    (hlim : ∀ l, c.limit = some l → c.count ≤ l) (hf : ∀ k, k ∈ c.failedAfter → c.limit = some k)
    (hn : nFailed c.cbs = c.failedAfter.length) (hh : c.hsLeft ≤ c.hsSteps ∧ (c.fd = false → c.hsLeft = 0)) :
    CInv (openWith reconnect timed c) := by
  by_cases hpr : c.present = true
  · rw [openWith_present _ _ hfd hpr]
    refine ⟨⟨.up, ?_, by simp, by simp⟩, fun _ => hp, by simp [hp], by simp, hf, ?_, by simp⟩
    · simp only [lrun_snoc, hq, Option.bind_some]
      cases q <;> simp_all [lstep]
    · simp [nFailed_snoc, hn]
  · rw [openWith_absent _ _ hfd (by simpa using hpr)]
    exact reconnect_CInv (c := { c with attempts := if timed then c.attempts + 1 else 0 }) hfd hq hne
      hcnt hlim hf hn hh

theorem step_CInv {c c' : Conn} {e : Ev} (h : CInv c) (hs : step c e = some c') : CInv c' := by
  obtain ⟨q, hq, hup, hdown⟩ := h.lang
  have hne : c.fd = false → q ≠ .up := fun hfd e => by rw [hup.mp e] at hfd; cases hfd
  have hs := step_cases hs
  cases e with
  | lose =>
    obtain ⟨hfd, rfl⟩ := hs
    have h0 := h.idle (h.fdp hfd)
    cases hup.mpr hfd
    exact reconnect_CInv (q := .down) (c := lost c) rfl (by simp [lrun_snoc, hq, lstep]) (by simp) h0
      (by intro l _; simp [h0]) h.failed (by simp [nFailed_snoc, h.nfail]) (by simp)
  | timer =>
    -- the reconnect task has been consumed: `connect()` with the task's counter
    obtain ⟨hp, rfl⟩ := hs
    obtain ⟨hcnt, hle⟩ := h.pend hp
    have hfd := h.fd_of_pending hp
    exact open_CInv true (c := { c with pending := false }) hfd hq (hne hfd) rfl hcnt
      (fun l hl => by have := hle l hl; simp only; omega) h.failed h.nfail h.hs
  | hs =>
    obtain ⟨hfd, -, rfl⟩ := hs
    exact { h with hs := ⟨Nat.le_trans (Nat.sub_le _ _) h.hs.1, fun hf => by rw [hfd] at hf; cases hf⟩ }
  -- the invariant does not mention `present`
  | gone => obtain ⟨-, rfl⟩ := hs; exact { h with }
  | back => cases hs; exact { h with }
  | connect =>
    obtain ⟨hp, rfl⟩ := hs
    have h0 := h.idle hp
    cases hfd : c.fd with
    | true => rw [openWith_open _ _ hfd]; exact h
    | false => exact open_CInv false hfd hq (hne hfd) hp (by simp [h0]) (by intro l _; simp [h0]) h.failed h.nfail h.hs

theorem run_CInv {c c' : Conn} {es : List Ev} (h : CInv c) (hr : run step c es = some c') : CInv c' :=
  run_invariant (fun _ _ _ _ h hs => step_CInv h hs) h hr

def Reachable (c : Conn) : Prop := ∃ c0 es, c0.fresh ∧ run step c0 es = some c

theorem reachable_CInv {c : Conn} (h : Reachable c) : CInv c := by
  obtain ⟨c0, es, h0, hr⟩ := h
  exact run_CInv (fresh_CInv h0) hr

theorem openWith_config (b : Bool) (x : Conn) :
    (openWith reconnect b x).limit = x.limit ∧ (openWith reconnect b x).hsSteps = x.hsSteps := by
  unfold openWith
  split
  · exact ⟨rfl, rfl⟩
  · split
    · exact ⟨rfl, rfl⟩
    · exact ⟨(reconnect_keeps _).1, (reconnect_keeps _).2.1⟩

theorem step_config {c c' : Conn} {e : Ev} (hs : step c e = some c') :
    c'.limit = c.limit ∧ c'.hsSteps = c.hsSteps := by
  have hs := step_cases hs
  cases e with
  | lose => obtain ⟨-, rfl⟩ := hs; exact ⟨(reconnect_keeps _).1, (reconnect_keeps _).2.1⟩
  | timer => obtain ⟨-, rfl⟩ := hs; exact openWith_config _ _
  | hs => obtain ⟨-, -, rfl⟩ := hs; exact ⟨rfl, rfl⟩
  | gone => obtain ⟨-, rfl⟩ := hs; exact ⟨rfl, rfl⟩
  | back => cases hs; exact ⟨rfl, rfl⟩
  | connect => obtain ⟨-, rfl⟩ := hs; exact openWith_config _ _

theorem run_config {c c' : Conn} {es : List Ev} (hr : run step c es = some c') :
    c'.limit = c.limit ∧ c'.hsSteps = c.hsSteps :=
  run_invariant (P := fun x => x.limit = c.limit ∧ x.hsSteps = c.hsSteps)
    (fun _ _ _ _ h hs => ⟨(step_config hs).1.trans h.1, (step_config hs).2.trans h.2⟩) ⟨rfl, rfl⟩ hr

/-- `connect()` on a closed device leaves it open only by opening it: the retry path keeps it closed -/
theorem openWith_fd {timed : Bool} {x : Conn} (hx : x.fd = false) (h1 : (openWith reconnect timed x).fd = true) :
    openWith reconnect timed x =
      { x with fd := true, hsLeft := x.hsSteps, count := 0, cbs := x.cbs ++ [.connected] } := by
  by_cases hpr : x.present = true
  · exact openWith_present _ _ hx hpr
  · rw [openWith_absent _ _ hx (by simpa using hpr), (reconnect_keeps _).2.2, hx] at h1
    cases h1

theorem hs_run {c : Conn} (hfd : c.fd = true) :
    run step c (List.replicate c.hsLeft .hs) = some { c with hsLeft := 0 } := by
  generalize hn : c.hsLeft = n
  induction n generalizing c with
  | zero => cases c; cases hn; rfl
  | succ k ih =>
    have : step c .hs = some { c with hsLeft := k } := by simp [step, stepWith, hfd, hn]
    rw [List.replicate_succ, run_cons this]
    exact ih (c := { c with hsLeft := k }) hfd rfl

/-- the driver never gives up silently: with the device closed and no retry pending, either
`connect()` has never reported anything or the last callback is `failed` -/
theorem CInv.never_silent {c : Conn} (h : CInv c) (hfd : c.fd = false) (hp : c.pending = false) :
    c.cbs = [] ∨ c.cbs.getLast? = some .failed := by
  obtain ⟨q, hq, hup, hdown⟩ := h.lang
  cases q with
  | idle => exact lrun_idle_last hq
  | up => have := hup.mp rfl; rw [hfd] at this; cases this
  | down => have := hdown rfl; rw [hp] at this; cases this

/-! ## the literal language `connected · (disconnected · (connected | failed))*`

When the application calls `connect()` once with the device there and never again, the lenient
automaton's `idle` state is not needed: `failed` is final. -/

inductive SState | start | up | down | dead
  deriving DecidableEq, Repr

def sstep : SState → Status → Option SState
  | .start, .connected => some .up
  | .up, .disconnected => some .down
  | .down, .connected => some .up
  | .down, .failed => some .dead
  | _, _ => none

def srun : SState → List Status → Option SState
  | q, [] => some q
  | q, s :: l => match sstep q s with | some q' => srun q' l | none => none

theorem srun_snoc (q : SState) (l : List Status) (s : Status) :
    srun q (l ++ [s]) = (srun q l).bind (fun q' => sstep q' s) := by
  induction l generalizing q with
  | nil =>
    simp only [List.nil_append, srun, Option.bind_some]
    cases sstep q s <;> rfl
  | cons x l ih =>
    simp only [List.cons_append, srun]
    cases sstep q x with
    | none => rfl
    | some q' => exact ih q'

/-- once `connected` has been reported, the state of the strict automaton can be read off the machine:
`up` while the device is open, `down` while a retry is pending, `dead` otherwise -/
def SInv (c : Conn) : Prop :=
  srun .start c.cbs = some (if c.fd then .up else if c.pending then .down else .dead)

theorem reconnect_SInv {c : Conn} (hfd : c.fd = false) (hq : srun .start c.cbs = some .down) :
    SInv (reconnect c) := by
  rcases reconnect_cases c with ⟨l, hl, hgt, h⟩ | ⟨harm, h⟩ <;> rw [h]
  · simp [SInv, hfd, srun_snoc, hq, sstep]
  · simp [SInv, hfd, hq]

theorem step_SInv {c c' : Conn} {e : Ev} (hI : CInv c) (h : SInv c) (he : e ≠ .connect)
    (hs : step c e = some c') : SInv c' := by
  have hs := step_cases hs
  cases e with
  | connect => exact absurd rfl he
  -- `SInv` reads neither `present` nor `hsLeft`
  | hs => obtain ⟨-, -, rfl⟩ := hs; exact h
  | gone => obtain ⟨-, rfl⟩ := hs; exact h
  | back => cases hs; exact h
  | lose =>
    obtain ⟨hfd, rfl⟩ := hs
    simp only [SInv, hfd, if_true] at h
    exact reconnect_SInv (c := lost c) rfl (by simp [srun_snoc, h, sstep])
  | timer =>
    obtain ⟨hp, rfl⟩ := hs
    have hfd := hI.fd_of_pending hp
    simp only [SInv, hfd, hp, Bool.false_eq_true, if_false, if_true] at h
    by_cases hpr : c.present = true
    · rw [openWith_present (c := { c with pending := false }) _ _ hfd hpr]
      simp [SInv, srun_snoc, h, sstep]
    · rw [openWith_absent (c := { c with pending := false }) _ _ hfd (by simpa using hpr)]
      exact reconnect_SInv (c := ticked c) hfd h

theorem run_SInv {c c' : Conn} {es : List Ev} (hI : CInv c) (h : SInv c) (hes : ∀ e ∈ es, e ≠ .connect)
    (hr : run step c es = some c') : SInv c' :=
  (run_invariant (P := fun x => CInv x ∧ SInv x)
    (fun e he _ _ h hs => ⟨step_CInv h.1 hs, step_SInv h.1 h.2 (hes e he) hs⟩) ⟨hI, h⟩ hr).2

end DaliVerif.Conn
