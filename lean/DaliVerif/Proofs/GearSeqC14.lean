import DaliVerif.Proofs.GearSeqC08
/-!
# Lemmas for C14: the DT8 colour sequences against the specification bus
-/
namespace DaliVerif.GearSeq
open Prog

/-! ## addressing depends on `short` and `groups` only -/

def addrOf (s : Option Nat) (g : Nat) : Addr → Bool
  | .broadcast => true
  | .unaddressed => s.isNone
  | .short n => s == some n
  | .group i => g.testBit i

theorem addressed_eq (u : Gear) (a : Addr) : u.addressed a = addrOf u.short u.groups a := by
  cases a <;> rfl

/-- the colour-capable units a frame is for -/
def Gear.isDt8 (u : Gear) (a : Addr) : Bool := u.addressed a && u.types.contains 8

theorem isDt8_congr (u v : Gear) (a : Addr) (h1 : v.short = u.short) (h2 : v.groups = u.groups)
    (h3 : v.types = u.types) : v.isDt8 a = u.isDt8 a := by
  rw [Gear.isDt8, addressed_congr u v a h1 h2, h3]; rfl

theorem execSt_dt8 (u : Gear) (c : Cmd) (h : c.devicetype = 8) :
    u.execSt c = (({ u with enabledDT := some 8, cursor := none } : Gear).step c).2 := by
  unfold Gear.execSt; rw [h]; rfl

theorem dt8_enabled (u : Gear) (a : Addr) :
    ({ u with enabledDT := some 8, cursor := none } : Gear).dt8 a = u.isDt8 a := by
  simp [Gear.dt8, Gear.isDt8, addressed_eq]

theorem execSt_setTempTc (u : Gear) (a : Addr) :
    u.execSt (.setTempTc a) =
      if u.isDt8 a = true then { u.tick with tempTc := u.dtr1 * 256 + u.dtr0 } else u.tick := by
  rw [execSt_dt8 _ _ rfl, ← dt8_enabled]
  simp only [Gear.step, apply_ite Prod.snd]
  rfl

theorem execSt_activate (u : Gear) (a : Addr) :
    u.execSt (.activate a) =
      if u.isDt8 a = true then
        (if u.tempTc = MASK16 then u.tick
         else { u.tick with tc := Gear.clamp u.coolest u.warmest u.tempTc, tempTc := MASK16 })
      else u.tick := by
  rw [execSt_dt8 _ _ rfl, ← dt8_enabled]
  simp only [Gear.step, apply_ite Prod.snd]
  rfl

theorem execSt_storeTcLimit (u : Gear) (a : Addr) :
    u.execSt (.storeTcLimit a) =
      if u.isDt8 a = true then
        (if u.dtr2 = 0 then { u.tick with coolest := u.dtr1 * 256 + u.dtr0 }
         else if u.dtr2 = 1 then { u.tick with warmest := u.dtr1 * 256 + u.dtr0 }
         else if u.dtr2 = 2 then { u.tick with physCoolest := u.dtr1 * 256 + u.dtr0 }
         else if u.dtr2 = 3 then { u.tick with physWarmest := u.dtr1 * 256 + u.dtr0 }
         else u.tick)
      else u.tick := by
  rw [execSt_dt8 _ _ rfl, ← dt8_enabled]
  simp only [Gear.step, apply_ite Prod.snd]
  rfl

theorem execSt_dtr0 (u : Gear) (v : Nat) : u.execSt (.dtr0 v) = { u.tick with dtr0 := v } := rfl
theorem execSt_dtr1 (u : Gear) (v : Nat) : u.execSt (.dtr1 v) = { u.tick with dtr1 := v } := rfl
theorem execSt_dtr2 (u : Gear) (v : Nat) : u.execSt (.dtr2 v) = { u.tick with dtr2 := v } := rfl

theorem execSt_qal (u : Gear) (a : Addr) : u.execSt (.queryActualLevel a) =
    if u.addressed a = true then { u.tick with reportTc := u.tc } else u.tick := by
  rw [execSt_dt0 _ _ rfl]; simp only [Gear.step, apply_ite Prod.snd]

theorem execSt_qcd (u : Gear) (a : Addr) : u.execSt (.queryContentDTR0 a) = u.tick := rfl

theorem execSt_qcv (u : Gear) (a : Addr) : u.execSt (.queryColourValue a) =
    if u.isDt8 a = true then
      (match u.colourReg u.dtr0 with
       | some v => { u.tick with dtr0 := v % 256, dtr1 := v / 256 }
       | none => { u.tick with dtr0 := 255, dtr1 := 255 })
    else u.tick := by
  rw [execSt_dt8 _ _ rfl, ← dt8_enabled]
  simp only [Gear.step]
  split
  · split <;> rename_i h <;> rw [show u.colourReg u.dtr0 = _ from h] <;> rfl
  · rfl

/-- the part of a unit the colour sequences can change or depend on -/
structure CView where
  short : Option Nat
  groups : Nat
  types : List Nat
  dtr0 : Nat
  dtr1 : Nat
  dtr2 : Nat
  tempTc : Nat
  tc : Nat
  coolest : Nat
  warmest : Nat
  physCoolest : Nat
  physWarmest : Nat
  reportTc : Nat

def Gear.cview (u : Gear) : CView :=
  ⟨u.short, u.groups, u.types, u.dtr0, u.dtr1, u.dtr2, u.tempTc, u.tc, u.coolest, u.warmest,
   u.physCoolest, u.physWarmest, u.reportTc⟩

def CView.isDt8 (v : CView) (a : Addr) : Bool := addrOf v.short v.groups a && v.types.contains 8

theorem cview_isDt8 (u : Gear) (a : Addr) : u.cview.isDt8 a = u.isDt8 a := by
  rw [Gear.isDt8, addressed_eq]; rfl

/-- the colour view of a unit after the commands whose effect does not depend on `others` -/
def CView.execSt (v : CView) : Cmd → CView
  | .dtr0 x => { v with dtr0 := x }
  | .dtr1 x => { v with dtr1 := x }
  | .dtr2 x => { v with dtr2 := x }
  | .setTempTc a => { v with tempTc := if v.isDt8 a = true then v.dtr1 * 256 + v.dtr0 else v.tempTc }
  | .activate a =>
      { v with
        tc := if v.isDt8 a = true ∧ v.tempTc ≠ MASK16 then Gear.clamp v.coolest v.warmest v.tempTc else v.tc
        tempTc := if v.isDt8 a = true then MASK16 else v.tempTc }
  | .storeTcLimit a =>
      { v with
        coolest := if v.isDt8 a = true ∧ v.dtr2 = 0 then v.dtr1 * 256 + v.dtr0 else v.coolest
        warmest := if v.isDt8 a = true ∧ v.dtr2 = 1 then v.dtr1 * 256 + v.dtr0 else v.warmest
        physCoolest := if v.isDt8 a = true ∧ v.dtr2 = 2 then v.dtr1 * 256 + v.dtr0 else v.physCoolest
        physWarmest := if v.isDt8 a = true ∧ v.dtr2 = 3 then v.dtr1 * 256 + v.dtr0 else v.physWarmest }
  | _ => v

def isSetCmd : Cmd → Bool
  | .dtr0 _ | .dtr1 _ | .dtr2 _ | .setTempTc _ | .activate _ | .storeTcLimit _ => true
  | _ => false

theorem cview_tick (u : Gear) : u.tick.cview = u.cview := rfl

theorem cview_execSt (u : Gear) : ∀ c, isSetCmd c = true → (u.execSt c).cview = u.cview.execSt c
  | .dtr0 _, _ => rfl
  | .dtr1 _, _ => rfl
  | .dtr2 _, _ => rfl
  | .setTempTc a, _ => by
    rw [execSt_setTempTc, CView.execSt, cview_isDt8]
    split <;> rfl
  | .activate a, _ => by
    rw [execSt_activate, CView.execSt, cview_isDt8]
    by_cases hd : u.isDt8 a = true
    · by_cases hm : u.tempTc = MASK16 <;> simp [hd, hm, Gear.cview, Gear.tick]
    · simp [hd, Gear.cview, Gear.tick]
  | .storeTcLimit a, _ => by
    rw [execSt_storeTcLimit, CView.execSt, cview_isDt8]
    by_cases hd : u.isDt8 a = true
    · by_cases h0 : u.dtr2 = 0
      · simp [hd, h0, Gear.cview, Gear.tick]
      · by_cases h1 : u.dtr2 = 1
        · simp [hd, h1, Gear.cview, Gear.tick]
        · by_cases h2 : u.dtr2 = 2
          · simp [hd, h2, Gear.cview, Gear.tick]
          · by_cases h3 : u.dtr2 = 3
            · simp [hd, h3, Gear.cview, Gear.tick]
            · simp [hd, h0, h1, h2, h3, Gear.cview, Gear.tick]
    · simp [hd, Gear.cview, Gear.tick]

theorem cview_fold (T : List Cmd) (hT : T.all isSetCmd = true) (u : Gear) :
    (T.foldl Gear.execSt u).cview = T.foldl CView.execSt u.cview := by
  induction T generalizing u with
  | nil => rfl
  | cons c T ih =>
    rw [List.all_cons, Bool.and_eq_true] at hT
    rw [List.foldl_cons, List.foldl_cons, ih hT.2, cview_execSt u c hT.1]

theorem setTc_cview (v : CView) (a : Addr) (tc : Nat) :
    let v' := [Cmd.dtr0 (tc % 256), .dtr1 (tc / 256), .setTempTc a, .activate a].foldl CView.execSt v
    v'.dtr0 = tc % 256 ∧ v'.dtr1 = tc / 256 ∧
    v'.coolest = v.coolest ∧ v'.warmest = v.warmest ∧
    v'.physCoolest = v.physCoolest ∧ v'.physWarmest = v.physWarmest ∧
    (if v.isDt8 a = true then
      v'.tc = (if tc = MASK16 then v.tc else Gear.clamp v.coolest v.warmest tc) ∧ v'.tempTc = MASK16
     else v'.tc = v.tc ∧ v'.tempTc = v.tempTc) := by
  intro v'
  have hsum : tc / 256 * 256 + tc % 256 = tc := by omega
  simp only [v', List.foldl_cons, List.foldl_nil, CView.execSt, CView.isDt8, hsum]
  refine ⟨trivial, trivial, trivial, trivial, trivial, trivial, ?_⟩
  by_cases hd : (addrOf v.short v.groups a && v.types.contains 8) = true
  · simp only [hd, if_true, true_and, ne_eq]
    by_cases hm : tc = MASK16 <;> simp [hm]
  · simp only [hd, Bool.false_eq_true, if_false, false_and, and_self]

theorem clamp_eq_self {lo hi v : Nat} (h1 : lo ≤ v) (h2 : v ≤ hi) : Gear.clamp lo hi v = v := by
  rw [Gear.clamp, if_neg (Nat.not_lt.mpr h1), if_neg (Nat.not_lt.mpr h2)]

theorem tcBytes_nat (tc : Nat) (htc : tc < 65536) :
    tcBytes (.int (tc : Int)) = .ok (tc % 256, tc / 256) :=
  if_pos htc

theorem setTcPost_holds (b : Bus) (a : Addr) (tc : Nat) (htc : tc < 65536) :
    setTcPost b a tc (runBus (setTc (.addr a) (.int tc)) b) = true := by
  rw [runBus_eta]
  simp only [runBus, setTc, withDest, Dest.resolve, tcBytes_nat tc htc, Prog.tell, Prog.run, setTcPost,
    beq_self_eq_true, Bool.true_and, List.length_map, all_zip_map, List.all_eq_true]
  intro u _
  have hc := setTc_cview u.cview a tc
  simp only [] at hc
  rw [← cview_fold _ rfl, cview_isDt8] at hc
  obtain ⟨c1, c2, c3, c4, c5, c6, c7⟩ := hc
  rw [show (u.addressed a && u.types.contains 8) = u.isDt8 a from rfl]
  cases hd : u.isDt8 a <;>
    simp only [hd, colourUntouched, Bool.and_eq_true, beq_iff_eq, Bool.false_eq_true, if_false, if_true]
      at c7 ⊢ <;>
    exact ⟨⟨c1, c2⟩, ⟨⟨⟨⟨⟨c7.1, c7.2⟩, c3⟩, c4⟩, c5⟩, c6⟩⟩

theorem dtrArg_nat (w : Nat) (hw : w ≤ 255) : dtrArg (.int (w : Int)) = .ok w :=
  if_pos hw

theorem setTcLimit_cview (v : CView) (a : Addr) (w tc : Nat) :
    let v' := [Cmd.dtr0 (tc % 256), .dtr1 (tc / 256), .dtr2 w, .storeTcLimit a].foldl CView.execSt v
    v'.tc = v.tc ∧ v'.tempTc = v.tempTc ∧
    v'.coolest = (if v.isDt8 a = true ∧ w = 0 then tc else v.coolest) ∧
    v'.warmest = (if v.isDt8 a = true ∧ w = 1 then tc else v.warmest) ∧
    v'.physCoolest = (if v.isDt8 a = true ∧ w = 2 then tc else v.physCoolest) ∧
    v'.physWarmest = (if v.isDt8 a = true ∧ w = 3 then tc else v.physWarmest) := by
  intro v'
  have hsum : tc / 256 * 256 + tc % 256 = tc := by omega
  simp only [v', List.foldl_cons, List.foldl_nil, CView.execSt, CView.isDt8, hsum]
  exact ⟨trivial, trivial, rfl, rfl, rfl, rfl⟩

theorem setTcLimitPost_holds (b : Bus) (a : Addr) (w tc : Nat) (hw : w < 4) (htc : tc < 65536) :
    setTcLimitPost b a w tc (runBus (setTcLimit (.addr a) (.int w) (.int tc)) b) = true := by
  rw [runBus_eta]
  simp only [runBus, setTcLimit, withDest, Dest.resolve, tcBytes_nat tc htc, dtrArg_nat w (by omega), Prog.tell,
    Prog.run, setTcLimitPost, beq_self_eq_true, Bool.true_and, List.length_map, all_zip_map,
    List.all_eq_true]
  intro u _
  have hc := setTcLimit_cview u.cview a w tc
  simp only [] at hc
  rw [← cview_fold _ rfl, cview_isDt8] at hc
  obtain ⟨c1, c2, c3, c4, c5, c6⟩ := hc
  rw [show (u.addressed a && u.types.contains 8) = u.isDt8 a from rfl]
  cases hd : u.isDt8 a <;>
    simp only [hd, colourUntouched, Bool.and_eq_true, beq_iff_eq, Bool.false_eq_true, if_false, if_true,
      true_and, false_and] at c3 c4 c5 c6 ⊢ <;>
    exact ⟨⟨⟨⟨⟨c1, c2⟩, c3⟩, c4⟩, c5⟩, c6⟩

/-- what `QueryDT8ColourValue` makes of its two answers -/
def qcRes : Resp → Resp → Option Nat
  | .byte m, .byte l => if m = 255 then none else some (l + 256 * m)
  | _, _ => none

theorem queryColour_run {σ : Type} (step : σ → Cmd → Resp × σ) (s : σ) (a : Addr) (sel : Nat) :
    (queryColour (.addr a) (some sel)).run step s =
      let m := step (step (step s (.queryActualLevel a)).2 (.dtr0 sel)).2 (.queryColourValue a)
      let l := step m.2 (.queryContentDTR0 a)
      ⟨.ret (qcRes m.1 l.1), l.2,
        [.queryActualLevel a, .dtr0 sel, .queryColourValue a, .queryContentDTR0 a]⟩ := by
  simp only [queryColour, withDest, Dest.resolve, Prog.tell, Prog.run]
  generalize step _ (.queryColourValue a) = m
  generalize step m.2 (.queryContentDTR0 a) = l
  rcases m.1 with _ | m | _ <;> rcases l.1 with _ | l | _ <;> try rfl
  simp only [qcRes]; split <;> rfl

theorem queryColourStreamPost_holds (answers : Nat → Resp) (a : Addr) (sel : Nat) :
    queryColourStreamPost answers (runStream (queryColour (.addr a) (some sel)) answers) = true := by
  rw [runStream, queryColour_run]
  simp only [queryColourStreamPost, streamStep, qcRes]
  split <;> simp [*]

/-- registers are 16 bits wide -/
def ColourWF (b : Bus) : Prop :=
  ∀ u ∈ b, ∀ sel v, ({ u with reportTc := u.tc } : Gear).colourReg sel = some v → v < 65536

/-- the unit as QUERY COLOUR VALUE finds it: after QUERY ACTUAL LEVEL, DTR0 := sel, ENABLE DEVICE TYPE 8 -/
def preQcv (a : Addr) (sel : Nat) (u : Gear) : Gear :=
  (((u.execSt (.queryActualLevel a)).execSt (.dtr0 sel)).step (.enableDT 8)).2

theorem preQcv_eq (a : Addr) (sel : Nat) (u : Gear) : preQcv a sel u =
    { u with dtr0 := sel, enabledDT := some 8, cursor := none,
             reportTc := if u.addressed a = true then u.tc else u.reportTc } := by
  unfold preQcv; rw [execSt_qal]
  cases u.addressed a <;> rfl

theorem step_qcv_resp (w : Gear) (a : Addr) :
    (w.step (.queryColourValue a)).1 =
      if w.dt8 a = true then some (match w.colourReg w.dtr0 with | some v => v / 256 | none => 255)
      else none := by
  simp only [Gear.step]
  split
  · split <;> simp_all
  · rfl

theorem step_qcv_st (w : Gear) (a : Addr) :
    ((w.step (.queryColourValue a)).2).short = w.short ∧ ((w.step (.queryColourValue a)).2).groups = w.groups ∧
    ((w.step (.queryColourValue a)).2).dtr0 =
      (if w.dt8 a = true then (match w.colourReg w.dtr0 with | some v => v % 256 | none => 255) else w.dtr0) := by
  simp only [Gear.step]
  split
  · split <;> simp_all [Gear.tick]
  · simp [Gear.tick]

theorem step_qcd_resp (w : Gear) (a : Addr) :
    (w.step (.queryContentDTR0 a)).1 = if w.addressed a = true then some w.dtr0 else none := by
  simp [Gear.step]

/-- what a unit answers to QUERY COLOUR VALUE and then to QUERY CONTENT DTR0 -/
theorem qcv_unit (a : Addr) (sel : Nat) (u : Gear) :
    ((preQcv a sel u).step (.queryColourValue a)).1 =
      (if u.addressed a = true then
        (if u.types.contains 8 = true then
          some (match ({ u with reportTc := u.tc } : Gear).colourReg sel with | some v => v / 256 | none => 255)
         else none)
       else none) ∧
    (((preQcv a sel u).step (.queryColourValue a)).2.step (.queryContentDTR0 a)).1 =
      (if u.addressed a = true then
        some (if u.types.contains 8 = true then
          (match ({ u with reportTc := u.tc } : Gear).colourReg sel with | some v => v % 256 | none => 255)
          else sel)
       else none) := by
  have hd : (preQcv a sel u).dt8 a = u.isDt8 a := by
    rw [preQcv_eq]; exact dt8_enabled _ a
  have ha : (preQcv a sel u).addressed a = u.addressed a := by
    rw [preQcv_eq]; exact addressed_congr u _ a rfl rfl
  have hr : u.addressed a = true →
      (preQcv a sel u).colourReg sel = ({ u with reportTc := u.tc } : Gear).colourReg sel := by
    intro h; rw [preQcv_eq, if_pos h]; rfl
  obtain ⟨s1, s2, s3⟩ := step_qcv_st (preQcv a sel u) a
  have h0 : (preQcv a sel u).dtr0 = sel := rfl
  rw [step_qcv_resp, step_qcd_resp, addressed_congr _ _ a s1 s2, ha, s3, hd, h0]
  by_cases hadd : u.addressed a = true
  · rw [hr hadd]; simp [Gear.isDt8, hadd]
  · simp [Gear.isDt8, hadd]

def colourKey (u : Gear) : Nat × Nat × Nat × Nat × Nat × Nat :=
  (u.tc, u.tempTc, u.coolest, u.warmest, u.physCoolest, u.physWarmest)

theorem colourKey_qal (u : Gear) (a : Addr) : colourKey (u.execSt (.queryActualLevel a)) = colourKey u := by
  rw [execSt_qal]; split <;> rfl
theorem colourKey_dtr0 (u : Gear) (v : Nat) : colourKey (u.execSt (.dtr0 v)) = colourKey u := rfl
theorem colourKey_qcd (u : Gear) (a : Addr) : colourKey (u.execSt (.queryContentDTR0 a)) = colourKey u := by
  rw [execSt_qcd]; rfl
theorem colourKey_qcv (u : Gear) (a : Addr) : colourKey (u.execSt (.queryColourValue a)) = colourKey u := by
  rw [execSt_qcv]
  split
  · split <;> rfl
  · rfl

theorem colourUntouched_iff (u u' : Gear) : colourUntouched u u' = true ↔ colourKey u' = colourKey u := by
  simp [colourUntouched, colourKey, and_assoc]

theorem colour_pres (u : Gear) (a : Addr) (sel : Nat) :
    colourUntouched u
      ([Cmd.queryActualLevel a, .dtr0 sel, .queryColourValue a, .queryContentDTR0 a].foldl Gear.execSt u) = true := by
  rw [colourUntouched_iff]
  simp only [List.foldl_cons, List.foldl_nil, colourKey_qcd, colourKey_qcv, colourKey_dtr0, colourKey_qal]

theorem queryColourPost_holds (b : Bus) (hwf : ColourWF b) (a : Addr) (sel : Nat) :
    queryColourPost b a sel (runBus (queryColour (.addr a) (some sel)) b) = true := by
  have hbE : (Bus.frame (Bus.exec (Bus.exec b (.queryActualLevel a)).2 (.dtr0 sel)).2 (.enableDT 8)).2
      = b.map (preQcv a sel) := by
    simp only [Bus.exec_st, Bus.frame, List.map_map]; rfl
  rw [runBus_eta]
  simp only [runBus, queryColour_run, queryColourPost, beq_self_eq_true, Bool.true_and, List.length_map,
    all_zip_map, Bool.and_eq_true, List.all_eq_true]
  refine ⟨?_, fun u _ => colour_pres u a sel⟩
  rw [show Bus.exec _ (.queryColourValue a) = Bus.frame (Bus.frame _ (.enableDT 8)).2 _ from rfl, hbE,
    exec_of_dt0 _ (.queryContentDTR0 a) rfl, frame_map, frame_map]
  simp only [fun u => (qcv_unit a sel u).1, fun u => (qcv_unit a sel u).2, ← List.filterMap_filter]
  rcases hf : b.filter (·.addressed a) with _ | ⟨u, _ | ⟨u2, r⟩⟩ <;> simp only [hf]
  · simp [combine, qcRes]
  · by_cases h8 : u.types.contains 8 = true
    · simp only [h8, if_true, List.filter_cons, List.filter_nil, List.filterMap_cons, List.filterMap_nil,
        combine]
      cases hreg : ({ u with reportTc := u.tc } : Gear).colourReg sel with
      | none => simp [qcRes]
      | some v =>
        have hv : v < 65536 := hwf u (of_filter_eq_cons hf).1 sel v hreg
        have hsum : v % 256 + 256 * (v / 256) = v := by omega
        by_cases hhi : v / 256 < 255
        · simp [qcRes, hhi, Nat.ne_of_lt hhi, hsum]
        · simp [qcRes, show v / 256 = 255 by omega]
    · have h8' : ¬ 8 ∈ u.types := by simpa using h8
      simp [h8', combine, qcRes]
  · simp only [List.filterMap_cons, combine_two]
    generalize combine _ = M
    cases M <;> simp [qcRes]

end DaliVerif.GearSeq
