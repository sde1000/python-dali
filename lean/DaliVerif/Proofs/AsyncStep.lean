import DaliVerif.Proofs.AsyncInv
/-!
# What one step of a task does, and that it preserves `Inv`

`actStep_cases` (through the record `ActStepped`) and `raiseStep_cases` say once what `actStep` and `raiseStep`
do to the task table, to the resources `res` of every task and to lock and log; the preservation proofs here and
in `Proofs/AsyncRun.lean` go through them and do not unfold the step functions again.
-/
namespace DaliVerif

theorem getElem?_lt {α} {l : List α} {i : Nat} {a : α} (h : l[i]? = some a) : i < l.length :=
  (List.getElem?_eq_some_iff.mp h).1

theorem getElem?_set_cases {α} {l : List α} {i j : Nat} {b x : α} (h : (l.set i b)[j]? = some x) :
    (j = i ∧ x = b) ∨ (j ≠ i ∧ l[j]? = some x) := by
  rw [List.getElem?_set] at h
  split at h
  · rename_i e
    split at h <;> cases h
    exact Or.inl ⟨e.symm, rfl⟩
  · exact Or.inr ⟨fun e => ‹¬i = j› e.symm, h⟩

theorem getElem?_concat {α} {l : List α} {a b : α} {i : Nat} (h : (l ++ [a])[i]? = some b) :
    l[i]? = some b ∨ (i = l.length ∧ b = a) := by
  rcases Nat.lt_trichotomy i l.length with hi | hi | hi
  · exact Or.inl (by rwa [List.getElem?_append_left hi] at h)
  · subst hi; exact Or.inr ⟨rfl, by simpa using h.symm⟩
  · rw [List.getElem?_eq_none (by simp; omega)] at h; cases h

theorem sum_map_set {α} (f : α → Nat) {l l' : List α} {i : Nat} {a b : α} (h : l[i]? = some a)
    (hl : l' = l.set i b) : (l'.map f).sum + f a = (l.map f).sum + f b := by
  subst hl
  induction l generalizing i with
  | nil => simp at h
  | cons x l ih =>
    cases i with
    | zero =>
      simp only [List.getElem?_cons_zero, Option.some.injEq] at h
      subst h
      simp only [List.set_cons_zero, List.map_cons, List.sum_cons]
      omega
    | succ j =>
      simp only [List.getElem?_cons_succ] at h
      have := ih h
      simp only [List.set_cons_succ, List.map_cons, List.sum_cons]
      omega

end DaliVerif

namespace DaliVerif.Async
open DaliVerif.Conn

theorem res_lock {s : St} {u : Tid} : (res s u).lock = true ↔ s.lock = some u := by simp [res]
theorem res_inner {s : St} {u : Tid} : (res s u).inner = true ↔ u ∈ s.inner := by simp [res]
theorem res_slot {s : St} {u : Tid} : (res s u).slot = true ↔ u ∈ s.owners := by simp [res]

/-- `res` through what it decides, so that no `decide` has to be compared with another -/
theorem res_eq {s : St} {u : Tid} {r : Res} :
    res s u = r ↔
      (s.lock = some u ↔ r.lock = true) ∧ (u ∈ s.inner ↔ r.inner = true) ∧ (u ∈ s.owners ↔ r.slot = true) := by
  obtain ⟨l, i, o⟩ := r
  cases l <;> cases i <;> cases o <;> simp [res]

theorem res_congr {s s' : St} (hl : s'.lock = s.lock) (hi : s'.inner = s.inner) (hs : s'.slots = s.slots)
    (u : Tid) : res s' u = res s u :=
  res_eq.mpr ⟨by rw [hl]; exact res_lock.symm, by rw [hi]; exact res_inner.symm,
    by rw [St.owners, hs]; exact res_slot.symm⟩

theorem lastFrame_congr {s s' : St} (h1 : s'.lock = s.lock) (h2 : s'.log = s.log) (u : Tid) :
    lastFrame s' u = lastFrame s u := by
  unfold lastFrame; rw [h1, h2]

theorem lastFrame_none_of_lock {s : St} {u : Tid} (h : s.lock ≠ some u) : lastFrame s u = none := by
  unfold lastFrame
  split
  · rw [if_neg]; exact fun hh => h hh.2
  · rfl

theorem head_wire_of_lastFrame {s : St} {t : Tid} {g : WFrame} (h : lastFrame s t = some g) :
    (wireOf s.log).head? = some (t, g) := by
  unfold lastFrame at h
  split at h
  · rename_i u g' _ heq
    split at h
    · rename_i hu; cases h; rw [heq, hu.1]; rfl
    · cases h
  · cases h

theorem TaskInv.transfer {s s' : St} {u : Tid} {tk : Task} (hr : res s' u = res s u)
    (hl : lastFrame s u = none ∨ lastFrame s' u = lastFrame s u) (h : TaskInv s u tk) : TaskInv s' u tk := by
  refine ⟨by rw [hr]; exact h.wf, by rw [hr]; exact h.ok, ?_, h.retry⟩
  rcases hl with hl | hl
  · exact edtOK_mono _ _ (hl ▸ h.edt)
  · rw [hl]; exact h.edt

theorem Inv.holder_lt_length {s : St} (hI : Inv s) {t : Tid} (h : s.lock = some t) : t < s.tasks.length :=
  Nat.lt_of_not_le fun hle => by have := res_lock.mpr h; rw [hI.bound t hle] at this; cases this

theorem Inv.res_ok {s : St} (hI : Inv s) (t : Tid) : (res s t).ok = true := by
  by_cases h : t < s.tasks.length
  · exact (hI.tasks t _ (List.getElem?_eq_getElem h)).ok
  · rw [hI.bound t (Nat.le_of_not_lt h)]; rfl

/-- what a completed action `a` of task `t` did to lock and log -/
inductive LockLog (s : St) (t : Tid) (a : Act) (s' : St) : Prop
  | acq : a = .acq → s.lock = none → s'.lock = some t → s'.log = (t, .acq) :: s.log → LockLog s t a s'
  | rel : a = .rel → s'.lock = none → s'.log = (t, .rel) :: s.log → LockLog s t a s'
  | write (f) : a = .write f → s'.lock = s.lock → s'.log = (t, .write f) :: s.log → LockLog s t a s'
  | other : (∀ f, a ≠ .write f) → s'.lock = s.lock → s'.log = s.log → LockLog s t a s'

/-- `actStep s t = some s'`, read off once: task `t` was at `st :: rest` and is now at `rest` (`slot` also records the
sequence number in its `tag`).  `held` is conditional on `eff` because `actStep` does not itself check the program
text (e.g. `rel` by a task that is not the holder). -/
structure ActStepped (s : St) (t : Tid) (tk : Task) (st : Step) (rest : List Step) (s' : St) : Prop where
  task : s.tasks[t]? = some tk
  prog : tk.prog = st :: rest
  tasks : s'.tasks = s.tasks.set t { tk with prog := rest, tag := if st.act = .slot then s.seq else tk.tag }
  conn : s'.conn = s.conn
  cap : s'.cap = s.cap
  held : ∀ {r'}, st.act.eff (res s t) = some r' → res s' t = r' ∧ ∀ u, u ≠ t → res s' u = res s u
  lockLog : LockLog s t st.act s'

section
attribute [local simp] res_eq res_lock res_inner res_slot setTask St.owners

theorem actStep_cases {s s' : St} {t : Tid} (h : actStep s t = some s') :
    ∃ tk st rest, ActStepped s t tk st rest s' := by
  unfold actStep at h
  cases ht : s.tasks[t]? with
  | none => simp [ht] at h
  | some tk =>
    cases hp : tk.prog with
    | nil => simp [ht, hp] at h
    | cons st rest =>
      simp only [ht, hp] at h
      refine ⟨tk, st, rest, ?_⟩
      obtain ⟨a, hc, hrc⟩ := st
      cases a <;> simp only at h
      case acq =>
        split at h <;> cases h
        rename_i hl
        refine ⟨ht, hp, rfl, rfl, rfl, fun he => ?_, .acq rfl hl rfl rfl⟩
        rw [(eff_acq he).2]
        exact ⟨by simp, fun u hu => by simp [hl, hu.symm]⟩
      case rel =>
        cases h
        refine ⟨ht, hp, rfl, rfl, rfl, fun he => ?_, .rel rfl rfl rfl⟩
        have hl := res_lock.mp (eff_rel he).1
        rw [(eff_rel he).2]
        exact ⟨by simp, fun u hu => by simp [hl, hu.symm]⟩
      case iacq =>
        split at h <;> cases h
        refine ⟨ht, hp, rfl, rfl, rfl, fun he => ?_, .other (by simp) rfl rfl⟩
        rw [(eff_iacq he).2.2]
        exact ⟨by simp, fun u hu => by simp [hu]⟩
      case irel =>
        cases h
        refine ⟨ht, hp, rfl, rfl, rfl, fun he => ?_, .other (by simp) rfl rfl⟩
        rw [eff_irel he]
        exact ⟨by simp, fun u hu => by simp [hu]⟩
      case slot =>
        split at h <;> cases h
        refine ⟨ht, hp, rfl, rfl, rfl, fun he => ?_, .other (by simp) rfl rfl⟩
        rw [(eff_slot he).2.2]
        exact ⟨by simp, fun u hu => by simp [hu]⟩
      case unslot =>
        cases h
        refine ⟨ht, hp, rfl, rfl, rfl, fun he => ?_, .other (by simp) rfl rfl⟩
        rw [eff_unslot he]
        exact ⟨by simp, fun u hu => by simp [hu]⟩
      case write f =>
        split at h <;> cases h
        exact ⟨ht, hp, rfl, rfl, rfl, fun he => ⟨(eff_write he).2.2.symm, fun _ _ => rfl⟩, .write f rfl rfl rfl⟩
      -- the remaining actions are `pure`: whichever way they complete, lock, serialiser, table and log stay
      all_goals first | cases h | (split at h <;> first | cases h | (split at h <;> cases h))
      all_goals
        exact ⟨ht, hp, rfl, rfl, rfl, fun he => ⟨by rw [eff_pure rfl he]; rfl, fun _ _ => rfl⟩,
          .other (fun f hf => by cases hf) rfl rfl⟩
end

theorem raiseStep_cases {s s' : St} {t : Tid} {e : Err} (h : raiseStep s t e = some s') :
    ∃ tk st rest, s.tasks[t]? = some tk ∧ tk.prog = st :: rest ∧ st.act.canRaise = true ∧
      ((s' = setTask s t { tk with prog := plain st.h, exc := some e } ∧ (e ≠ .comm ∨ tk.retry = none)) ∨
       (∃ body, e = .comm ∧ tk.retry = some body ∧ st.act.canComm = true ∧
          s' = setTask s t { tk with prog := plain st.hr ++ body })) := by
  unfold raiseStep at h
  cases ht : s.tasks[t]? with
  | none => simp [ht] at h
  | some tk =>
    cases hp : tk.prog with
    | nil => simp [ht, hp] at h
    | cons st rest =>
      simp only [ht, hp] at h
      split at h
      · cases h
      · rename_i hcr
        refine ⟨tk, st, rest, rfl, hp, by simpa using hcr, ?_⟩
        split at h
        · rename_i body hretry
          split at h <;> cases h
          exact Or.inr ⟨body, rfl, hretry, ‹_›, rfl⟩
        · rename_i hno
          cases h
          refine Or.inl ⟨rfl, ?_⟩
          cases hr : tk.retry with
          | none => exact Or.inr rfl
          | some body => exact Or.inl fun he => hno body he hr

/-- the common shape of every task step: task `t` gets a new record, everybody else keeps theirs -/
theorem inv_update {s s' : St} {t : Tid} {tk tk' : Task} (hI : Inv s) (ht : s.tasks[t]? = some tk)
    (htasks : s'.tasks = s.tasks.set t tk') (hself : TaskInv s' t tk')
    (hres : ∀ u, u ≠ t → res s' u = res s u)
    (hlast : ∀ u, u ≠ t → lastFrame s u = none ∨ lastFrame s' u = lastFrame s u)
    (hlog : holderR s'.log = some s'.lock) (hwire : wireEdtR (wireOf s'.log) = true) : Inv s' := by
  have hlt := getElem?_lt ht
  refine ⟨fun u tku hu => ?_, fun u hu => ?_, hlog, hwire⟩
  · rw [htasks] at hu
    rcases getElem?_set_cases hu with ⟨rfl, rfl⟩ | ⟨e, hu⟩
    · exact hself
    · exact TaskInv.transfer (hres u e) (hlast u e) (hI.tasks u tku hu)
  · rw [htasks, List.length_set] at hu
    rw [hres u (Nat.ne_of_gt (Nat.lt_of_lt_of_le hlt hu))]
    exact hI.bound u hu

theorem inv_setTask {s : St} {t : Tid} {tk tk' : Task} (hI : Inv s) (ht : s.tasks[t]? = some tk)
    (hwf : wf tk'.retry.isSome (res s t) tk'.prog = true) (hedt : edtOK (lastFrame s t) tk'.prog = true)
    (hretry : ∀ b, tk'.retry = some b → wf true loopHead b = true ∧ edtOK none b = true) :
    Inv (setTask s t tk') :=
  inv_update hI ht rfl ⟨hwf, (hI.tasks t tk ht).ok, hedt, hretry⟩ (fun _ _ => rfl) (fun _ _ => Or.inr rfl)
    hI.log hI.wire

theorem actStep_inv {s s' : St} {t : Tid} (hI : Inv s) (h : actStep s t = some s') : Inv s' := by
  obtain ⟨tk, st, rest, hs⟩ := actStep_cases h
  have hT := hI.tasks t tk hs.task
  obtain ⟨-, -, r', heff, hwfr⟩ := wf_cons (hs.prog ▸ hT.wf)
  have hedt := hs.prog ▸ hT.edt
  obtain ⟨hrt, hru⟩ := hs.held heff
  -- all that depends on the action: the device-type check of `t`, other tasks' last frames, log and wire
  suffices h : edtOK (lastFrame s' t) rest = true ∧
      (∀ u, u ≠ t → lastFrame s u = none ∨ lastFrame s' u = lastFrame s u) ∧
      holderR s'.log = some s'.lock ∧ wireEdtR (wireOf s'.log) = true from
    inv_update hI hs.task hs.tasks ⟨hrt ▸ hwfr, hrt ▸ ok_eff _ hT.ok heff, h.1, hT.retry⟩ hru h.2.1 h.2.2.1 h.2.2.2
  -- while `t` holds the lock (or nobody does) no other task has a last frame
  have hnone : ∀ {u}, u ≠ t → (s.lock = none ∨ s.lock = some t) → lastFrame s u = none := fun hu hl =>
    lastFrame_none_of_lock (by rcases hl with hl | hl <;> simp [hl, Ne.symm hu])
  rcases hs.lockLog with ⟨ha, hl0, hl, hg⟩ | ⟨ha, hl, hg⟩ | ⟨f, ha, hl, hg⟩ | ⟨hnw, hl, hg⟩
  · exact ⟨edtOK_mono _ _ (edtOK_cons_lock (Or.inl ha) hedt), fun u hu => Or.inl (hnone hu (Or.inl hl0)),
      by simp [hg, hl, holderR, hI.log, hl0], by rw [hg]; exact hI.wire⟩
  · have hlock := res_lock.mp (eff_rel (ha ▸ heff)).1
    exact ⟨edtOK_mono _ _ (edtOK_cons_lock (Or.inr ha) hedt), fun u hu => Or.inl (hnone hu (Or.inr hlock)),
      by simp [hg, hl, holderR, hI.log, hlock], by rw [hg]; exact hI.wire⟩
  · have hlock := res_lock.mp (eff_write (ha ▸ heff)).1
    obtain ⟨hdt, hrest⟩ := edtOK_cons_write ha hedt
    have hlf : lastFrame s' t = some f := by simp [lastFrame, hg, hl, hlock, wireOf]
    refine ⟨hlf ▸ hrest, fun u hu => Or.inl (hnone hu (Or.inr hlock)),
      by simp [hg, hl, holderR, hI.log, hlock], ?_⟩
    -- the new frame sits on its EnableDeviceType: that was the last frame of `t`
    simp only [hg, wireOf, wireEdtR, Bool.and_eq_true, Bool.or_eq_true] at hdt ⊢
    exact ⟨hdt.imp_right fun h => by rw [head_wire_of_lastFrame (by simpa using h)]; simp, hI.wire⟩
  · exact ⟨lastFrame_congr hl hg t ▸ edt_skip hnw hedt, fun u _ => Or.inr (lastFrame_congr hl hg u),
      by rw [hg, hl]; exact hI.log, by rw [hg]; exact hI.wire⟩

theorem raiseStep_inv {s s' : St} {t : Tid} {e : Err} (hI : Inv s) (h : raiseStep s t e = some s') : Inv s' := by
  obtain ⟨tk, st, rest, ht, hp, hcr, hcase⟩ := raiseStep_cases h
  have hT := hI.tasks t tk ht
  obtain ⟨hclean, hro, -⟩ := wf_cons (hp ▸ hT.wf)
  rcases hcase with ⟨rfl, -⟩ | ⟨body, -, hretry, hcc, rfl⟩
  · have hclean := hclean hcr
    refine inv_setTask hI ht (wf_plain_of_cleanupOK _ _ _ hclean) ?_ hT.retry
    simp only [cleanupOK, Bool.and_eq_true] at hclean
    exact edtSeg_plain _ _ hclean.1
  · have hro := hro (by rw [hretry]; rfl) hcc
    obtain ⟨hbwf, hbedt⟩ := hT.retry body hretry
    simp only [retryOK, Bool.and_eq_true] at hro
    refine inv_setTask hI ht ?_ ?_ hT.retry
    · -- the clean-up leads to the loop head, where the retry body is well formed
      simp only [wf, wfSeg_append, wfSeg_plain _ _ _ hro.1, hretry, Option.isSome_some]
      cases hra : runActs (res s t) st.hr with
      | none => simp [hra] at hro
      | some r1 =>
        have : r1 = loopHead := by simpa [hra] using hro.2
        subst this
        simpa [wf] using hbwf
    · simp only [edtOK, edtSeg_append]
      have h1 := edtSeg_plain (lastFrame s t) st.hr hro.1
      cases hx : edtSeg (lastFrame s t) (plain st.hr) with
      | none => simp [hx] at h1
      | some x => exact edtSeg_mono x body hbedt

end DaliVerif.Async
