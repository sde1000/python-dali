import DaliVerif.Spec.GearPost
/-!
# Generic lemmas about running sequence programs

`run_bind` (sequencing), `runBus_st` (the final bus is, unit by unit, the fold of
the unit's own transition function over the commands sent — every unit sees every
frame and nothing else), answer-combination lemmas.
-/
namespace DaliVerif.GearSeq
open Prog

theorem run_bind {σ α β : Type} (step : σ → Cmd → Resp × σ) (p : Prog α) (f : α → Prog β) (s : σ) :
    (p.bind f).run step s =
      match (p.run step s).res with
      | .ret a =>
        ⟨((f a).run step (p.run step s).st).res, ((f a).run step (p.run step s).st).st,
          (p.run step s).trace ++ ((f a).run step (p.run step s).st).trace⟩
      | .raised e => ⟨.raised e, (p.run step s).st, (p.run step s).trace⟩
      | .outOfFuel => ⟨.outOfFuel, (p.run step s).st, (p.run step s).trace⟩ := by
  induction p generalizing s with
  | done a => simp [Prog.bind, Prog.run]
  | fail e => simp [Prog.bind, Prog.run]
  | spin => simp [Prog.bind, Prog.run]
  | send c k ih =>
    simp only [Prog.bind, Prog.run]
    rw [ih]
    cases h : (Prog.run step (k (step s c).1) (step s c).2).res <;> simp
  | note n k ih =>
    simp only [Prog.bind, Prog.run]
    exact ih s

/-- per unit: the state after one command as a driver transmits it -/
def Gear.execSt (u : Gear) (c : Cmd) : Gear :=
  if c.devicetype = 0 then (u.step c).2 else (((u.step (.enableDT c.devicetype)).2).step c).2

theorem Bus.exec_st (b : Bus) (c : Cmd) : (Bus.exec b c).2 = b.map (·.execSt c) := by
  unfold Bus.exec Gear.execSt Bus.frame
  by_cases h : c.devicetype = 0
  · simp [h]
  · simp [h, List.map_map, Function.comp_def]

theorem runBus_st {α : Type} (p : Prog α) (b : Bus) :
    (runBus p b).st = b.map (fun u => (runBus p b).trace.foldl Gear.execSt u) := by
  unfold runBus
  induction p generalizing b with
  | done a => simp [Prog.run]
  | fail e => simp [Prog.run]
  | spin => simp [Prog.run]
  | send c k ih =>
    simp only [Prog.run, List.foldl_cons]
    rw [ih, Bus.exec_st, List.map_map]
    rfl
  | note n k ih => simp only [Prog.run]; exact ih b

/-- `runBus_st`, as a description of the whole observation -/
theorem runBus_eta {α : Type} (p : Prog α) (b : Bus) :
    runBus p b = ⟨(runBus p b).res, b.map (fun u => (runBus p b).trace.foldl Gear.execSt u),
      (runBus p b).trace⟩ := by
  rw [← runBus_st]

theorem filterMap_map_of_pres {α β : Type} (g : α → Option β) (f : α → α) (h : ∀ x, g (f x) = g x) (l : List α) :
    (l.map f).filterMap g = l.filterMap g := by
  rw [List.filterMap_map]
  exact congrArg (List.filterMap · l) (funext h)

theorem frame_resp_filter (b : Bus) (c : Cmd) (sel : Gear → Bool)
    (h : ∀ u, sel u = false → (u.step c).1 = none) :
    (Bus.frame b c).1 = combine ((b.filter sel).filterMap (fun u => (u.step c).1)) := by
  rw [List.filterMap_filter]
  refine congrArg (fun f => combine (b.filterMap f)) (funext fun u => ?_)
  cases hs : sel u
  · exact h u hs
  · rfl

theorem frame_resp_map (b : Bus) (c : Cmd) (sel : Gear → Bool) (f : Gear → Nat)
    (h : ∀ u, (u.step c).1 = if sel u then some (f u) else none) :
    (Bus.frame b c).1 = combine ((b.filter sel).map f) := by
  simp only [Bus.frame, h, ← List.filterMap_filter, List.filterMap_eq_map']

theorem filter_map_of_pres {α : Type} (f : α → α) (sel : α → Bool) (l : List α)
    (h : ∀ u, sel (f u) = sel u) :
    (l.map f).filter sel = (l.filter sel).map f := by
  rw [List.filter_map, show sel ∘ f = sel from funext h]

theorem zip_map_self {α β : Type} (l : List α) (g : α → β) : l.zip (l.map g) = l.map fun u => (u, g u) := by
  simpa using List.zip_map' (f := id) (g := g) (l := l)

theorem all_zip_map {α : Type} (l : List α) (f : α → α) (P : α × α → Bool) :
    ((l.zip (l.map f)).all P) = l.all (fun u => P (u, f u)) := by
  rw [zip_map_self, List.all_map]; rfl

theorem exec_of_dt0 (b : Bus) (c : Cmd) (h : c.devicetype = 0) : Bus.exec b c = Bus.frame b c :=
  if_pos h

theorem execSt_dt0 (u : Gear) (c : Cmd) (h : c.devicetype = 0) : u.execSt c = (u.step c).2 :=
  if_pos h

theorem tick_addressed (u : Gear) (a : Addr) : u.tick.addressed a = u.addressed a := by
  cases a <;> rfl

theorem of_filter_eq_cons {α : Type} {p : α → Bool} {l r : List α} {x : α} (h : l.filter p = x :: r) :
    x ∈ l ∧ p x = true :=
  List.mem_filter.mp (h ▸ List.mem_cons_self)

theorem frame_map (b : Bus) (f : Gear → Gear) (c : Cmd) :
    Bus.frame (b.map f) c =
      (combine (b.filterMap fun u => ((f u).step c).1), b.map fun u => ((f u).step c).2) := by
  simp only [Bus.frame, List.filterMap_map, List.map_map, Function.comp_def]

theorem exec_query (b : Bus) (c : Cmd) (a : Addr) (f : Gear → Nat) (hdt : c.devicetype = 0)
    (h : ∀ u, u.step c = (if u.addressed a then some (f u) else none, u.tick)) :
    Bus.exec b c = (combine ((b.filter (·.addressed a)).map f), b.map Gear.tick) := by
  rw [exec_of_dt0 _ _ hdt]
  refine Prod.ext (frame_resp_map b c _ f fun u => by rw [h]) ?_
  simp only [Bus.frame, h]

theorem combine_two (x y : Nat) (l : List Nat) : combine (x :: y :: l) = .err := rfl

end DaliVerif.GearSeq
