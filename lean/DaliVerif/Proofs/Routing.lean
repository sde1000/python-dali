import DaliVerif.Model.Routing
/-!
# C16 — invariants of the four routing transition systems (`Model/Routing.lean`)
-/
namespace DaliVerif.Proofs.RoutingInv
open DaliVerif DaliVerif.Answer DaliVerif.Routing

theorem seqAt_closed (s0 k : Nat) (h1 : 1 ≤ s0) (h2 : s0 ≤ 255) :
    seqAt s0 k = (s0 - 1 + k) % 255 + 1 := by
  induction k with
  | zero => simp only [seqAt]; omega
  | succ k ih =>
    rw [seqAt, ih, nextSeq, ← Nat.add_assoc]
    generalize s0 - 1 + k = m
    split <;> omega

theorem seqAt_eq_iff (s0 i j : Nat) (h1 : 1 ≤ s0) (h2 : s0 ≤ 255) :
    seqAt s0 i = seqAt s0 j ↔ i % 255 = j % 255 := by
  rw [seqAt_closed s0 i h1 h2, seqAt_closed s0 j h1 h2]
  generalize s0 - 1 = a
  omega

/-- what the invariant says of one outstanding entry: it carries the number drawn for its own
command, which has been written; no command written later has drawn the same number; its
messages are about that command -/
structure EntryOK (s0 : Nat) (written : List Nat) (e : Entry) : Prop where
  seq_eq : e.seq = seqAt s0 e.idx
  idx_written : e.idx ∈ written
  later : ∀ j ∈ written, e.idx < j → seqAt s0 j ≠ e.seq
  msgs : ∀ m ∈ e.msgs, m.about = e.idx

structure TriInv (s0 : Nat) (t : Tri) : Prop where
  hs0 : t.s0 = s0
  written_lt : ∀ j ∈ t.written, j < t.next
  out_ok : ∀ e ∈ t.out, EntryOK s0 t.written e

theorem triInv_init (s0 : Nat) : TriInv s0 (Tri.init s0) := ⟨rfl, nofun, nofun⟩

theorem TriInv.alloc {s0 : Nat} {t : Tri} (inv : TriInv s0 t) : TriInv s0 (t.step .alloc).1 := by
  obtain ⟨hs0, hw, hout⟩ := inv
  have hw' : ∀ j ∈ t.written, j < t.next + 1 := fun j hj => Nat.lt_succ_of_lt (hw j hj)
  simp only [Tri.step]
  split
  · exact ⟨hs0, hw', hout⟩
  · next hany =>
    -- the number drawn is not outstanding: that is `later` of the old entries for the new write
    simp only [List.any_eq_true, beq_iff_eq, not_exists, not_and] at hany
    refine ⟨hs0, List.forall_mem_cons.mpr ⟨Nat.lt_succ_self _, hw'⟩,
      List.forall_mem_append.mpr ⟨fun e he => ?_, List.forall_mem_singleton.mpr ?_⟩⟩
    · have ho := hout e he
      exact ⟨ho.seq_eq, List.mem_cons_of_mem _ ho.idx_written,
        List.forall_mem_cons.mpr ⟨fun _ heq => hany e he (hs0 ▸ heq.symm), ho.later⟩, ho.msgs⟩
    · exact ⟨hs0 ▸ rfl, List.mem_cons_self, List.forall_mem_cons.mpr
        ⟨fun h => absurd h (Nat.lt_irrefl _), fun j hj h => absurd (hw j hj) (Nat.lt_asymm h)⟩, nofun⟩

/-- A report about a command that has been written, arriving before 255 further numbers have been
drawn, goes to that command's entry or to none. -/
theorem TriInv.deliver {s0 : Nat} (h1 : 1 ≤ s0) (h2 : s0 ≤ 255) {t : Tri} (inv : TriInv s0 t)
    {about : Nat} (m : TMsg) (habout : about ∈ t.written) (hnext : t.next ≤ about + 255) :
    TriInv s0 (t.step (.deliver about m)).1 := by
  obtain ⟨hs0, hw, hout⟩ := inv
  simp only [Tri.step]
  refine ⟨hs0, hw, List.forall_mem_map.mpr fun e he => ?_⟩
  have ho := hout e he
  split
  · next hseq =>
    -- an entry with the sequence number of `about` is the entry of `about`
    rw [beq_iff_eq, hs0] at hseq
    refine ⟨ho.seq_eq, ho.idx_written, ho.later,
      List.forall_mem_append.mpr ⟨ho.msgs, List.forall_mem_singleton.mpr ?_⟩⟩
    rcases Nat.lt_trichotomy e.idx about with hlt | heq | hgt
    · exact absurd hseq.symm (ho.later about habout hlt)
    · exact heq.symm
    · have := (seqAt_eq_iff s0 e.idx about h1 h2).mp (by rw [← ho.seq_eq, hseq])
      have := hw _ ho.idx_written
      omega
  · exact ho

theorem TriInv.finish {s0 : Nat} {t : Tri} (inv : TriInv s0 t) (idx : Nat) :
    TriInv s0 (t.step (.finish idx)).1 :=
  ⟨inv.hs0, inv.written_lt, fun e he => inv.out_ok e (List.mem_filter.mp he).1⟩

/-- the invariant implies the property: own messages only, one entry per sequence number -/
theorem triInv_routing {s0 : Nat} {t : Tri} (inv : TriInv s0 t) :
    (∀ e ∈ t.out, ∀ m ∈ e.msgs, m.about = e.idx) ∧
    (∀ e₁ ∈ t.out, ∀ e₂ ∈ t.out, e₁.seq = e₂.seq → e₁.idx = e₂.idx) := by
  refine ⟨fun e he => (inv.out_ok e he).msgs, fun e₁ h₁ e₂ h₂ heq => ?_⟩
  have o₁ := inv.out_ok e₁ h₁
  have o₂ := inv.out_ok e₂ h₂
  rcases Nat.lt_trichotomy e₁.idx e₂.idx with hlt | heq' | hgt
  · exact absurd (by rw [← o₂.seq_eq, heq]) (o₁.later e₂.idx o₂.idx_written hlt)
  · exact heq'
  · exact absurd (by rw [← o₁.seq_eq, heq]) (o₂.later e₁.idx o₁.idx_written hgt)

structure SlotInv (s : Slot) : Prop where
  slot_le : ∀ τ r, s.slot = some (τ, r) → τ ≤ s.clock
  holder_le : ∀ t w, s.holder = some (t, w) → w ≤ s.clock
  fresh : ∀ t w τ r, s.holder = some (t, w) → s.avail = true → s.slot = some (τ, r) → w < τ

theorem slotInv_init : SlotInv Slot.init := by
  constructor <;> simp [Slot.init]

theorem SlotInv.tick {s : Slot} (inv : SlotInv s) : SlotInv { s with clock := s.clock + 1 } :=
  ⟨fun τ r h => Nat.le_succ_of_le (inv.slot_le τ r h),
   fun t w h => Nat.le_succ_of_le (inv.holder_le t w h), inv.fresh⟩

/-- the event is cleared; the lock is free, kept, or taken now -/
theorem SlotInv.clear {s : Slot} (inv : SlotInv s) (h' : Option (Nat × Nat))
    (hh : ∀ t w, h' = some (t, w) → w ≤ s.clock) :
    SlotInv { s with clock := s.clock + 1, avail := false, holder := h' } :=
  ⟨fun τ r h => Nat.le_succ_of_le (inv.slot_le τ r h), fun t w h => Nat.le_succ_of_le (hh t w h),
   fun _ _ _ _ _ ha => nomatch ha⟩

theorem slotInv_step {s : Slot} (inv : SlotInv s) (ev : SlotEv) : SlotInv (s.step ev).1 := by
  cases ev with
  | write t =>
    simp only [Slot.step]
    split
    · exact inv.tick
    · exact inv.clear _ fun t w h => by cases h; exact Nat.le_refl _
  | writeNoWait =>
    simp only [Slot.step]
    split
    · exact inv.tick
    · next hn => exact hn ▸ inv.clear none nofun
  | report r =>
    -- the stored report is newer than any `clear()`
    refine ⟨fun τ r h => by cases h; exact Nat.le_refl _,
      fun t w h => Nat.le_succ_of_le (inv.holder_le t w h), fun t w τ r hw _ hs => ?_⟩
    cases hs
    exact Nat.lt_succ_of_le (inv.holder_le t w hw)
  | wake t =>
    simp only [Slot.step]
    split
    · split
      · exact inv.clear none nofun
      · exact inv.tick
    · exact inv.tick

/-- what a task reads on `wake` was stored after its own write / clear -/
theorem slotInv_wake {s s' : Slot} (inv : SlotInv s) {t t₁ τ : Nat} {r : HRep}
    (h : s.step (.wake t) = (s', some (t₁, τ, r))) :
    t₁ = t ∧ ∃ w, s.holder = some (t, w) ∧ w < τ := by
  simp only [Slot.step] at h
  split at h
  · rename_i t' w τ' r' hh ha hs
    split at h
    · rename_i heq
      simp only [Prod.mk.injEq, Option.some.injEq] at h
      obtain ⟨-, rfl, rfl, rfl⟩ := h
      subst heq
      exact ⟨rfl, w, hh, inv.fresh _ _ _ _ hh ha hs⟩
    · simp at h
  · simp at h

structure QueInv (q : Que) : Prop where
  raw_le : ∀ x ∈ q.raw, x.1 ≤ q.clock
  holder_lt : ∀ t w, q.holder = some (t, w) → w ≤ q.clock ∧ ∀ x ∈ q.raw, w < x.1

theorem queInv_init : QueInv Que.init := by
  constructor <;> simp [Que.init]

theorem QueInv.tick {q : Que} (inv : QueInv q) : QueInv { q with clock := q.clock + 1 } :=
  ⟨fun x h => Nat.le_succ_of_le (inv.raw_le x h),
   fun t w h => ⟨Nat.le_succ_of_le (inv.holder_lt t w h).1, (inv.holder_lt t w h).2⟩⟩

/-- the lock is released; bytes may have been taken -/
theorem QueInv.release {q : Que} (inv : QueInv q) (raw : List (Nat × Nat)) (h : ∀ x ∈ raw, x ∈ q.raw) :
    QueInv { q with clock := q.clock + 1, raw := raw, holder := none } :=
  ⟨fun x hx => Nat.le_succ_of_le (inv.raw_le x (h x hx)), nofun⟩

theorem queInv_step {q : Que} (inv : QueInv q) (ev : QueEv) : QueInv (q.step ev).1 := by
  cases ev with
  | flush t =>
    simp only [Que.step, Que.stepWith]
    split
    · exact inv.tick
    · exact ⟨nofun, fun t w h => by cases h; exact ⟨Nat.le_succ _, nofun⟩⟩
  | rx b =>
    -- the new byte is newer than any flush
    simp only [Que.step, Que.stepWith]
    refine ⟨fun x hx => ?_, fun t w h => ⟨Nat.le_succ_of_le (inv.holder_lt t w h).1, fun x hx => ?_⟩⟩
    all_goals rcases List.mem_append.mp hx with hx | hx
    · exact Nat.le_succ_of_le (inv.raw_le x hx)
    · cases List.mem_singleton.mp hx; exact Nat.le_refl _
    · exact (inv.holder_lt t w h).2 x hx
    · cases List.mem_singleton.mp hx; exact Nat.lt_succ_of_le (inv.holder_lt t w h).1
  | take t =>
    simp only [Que.step, Que.stepWith]
    split
    · next hr =>
      split
      · exact inv.release _ fun x hx => hr ▸ List.mem_cons_of_mem _ hx
      · exact inv.tick
    · exact inv.tick
  | giveUp t =>
    simp only [Que.step, Que.stepWith]
    split
    · split
      · exact inv.release _ fun _ hx => hx
      · exact inv.tick
    · exact inv.tick

/-- what a task takes from the queue was queued after its own flush -/
theorem queInv_take {q q' : Que} (inv : QueInv q) {t t₁ τ b : Nat}
    (h : q.step (.take t) = (q', some (t₁, some (τ, b)))) :
    t₁ = t ∧ ∃ w, q.holder = some (t, w) ∧ w < τ := by
  simp only [Que.step, Que.stepWith] at h
  split at h
  · rename_i t' w x rest hh hr
    split at h
    · rename_i heq
      simp only [Prod.mk.injEq, Option.some.injEq] at h
      obtain ⟨-, rfl, rfl⟩ := h
      subst heq
      exact ⟨rfl, w, hh, (inv.holder_lt _ _ hh).2 (τ, b) (by rw [hr]; simp)⟩
    · simp at h
  · simp at h

structure HatInv (h : Hat) : Prop where
  own : ∀ l ∈ h.lines, h.holder = some l
  len : h.lines.length = h.owed

theorem hatInv_init : HatInv Hat.init := by
  constructor <;> simp [Hat.init]

theorem HatInv.lines_nil {h : Hat} (inv : HatInv h) (hn : h.holder = none ∨ h.owed = 0) : h.lines = [] := by
  cases hl : h.lines with
  | nil => rfl
  | cons l r =>
    rcases hn with hn | hn
    · have := inv.own l (by rw [hl]; exact List.mem_cons_self)
      rw [hn] at this; cases this
    · have := inv.len; rw [hl, hn] at this; cases this

theorem hatInv_step {h h' : Hat} {o} (inv : HatInv h) (ev : HatEv)
    (hs : h.step ev = some (h', o)) : HatInv h' := by
  cases ev with
  | acquire t =>
    simp only [Hat.step, Hat.stepWith] at hs
    split at hs
    · next hn =>
      cases hs
      exact ⟨by simp [inv.lines_nil (.inl hn)], by simp [inv.lines_nil (.inl hn)]⟩
    · cases hs
  | write t n =>
    simp only [Hat.step, Hat.stepWith] at hs
    split at hs
    · next hn =>
      cases hs
      refine ⟨fun l hl => ?_, by simp [inv.len]⟩
      rcases List.mem_append.mp hl with hl | hl
      · exact inv.own l hl
      · exact (List.mem_replicate.mp hl).2 ▸ hn
    · cases hs
  | read t =>
    simp only [Hat.step, Hat.stepWith] at hs
    split at hs
    · split at hs
      · next l rest hl =>
        cases hs
        have := inv.len
        rw [hl] at this
        exact ⟨fun x hx => inv.own x (hl ▸ List.mem_cons_of_mem _ hx), by simp at this ⊢; omega⟩
      · cases hs
    · cases hs
  | release t =>
    simp only [Hat.step, Hat.stepWith] at hs
    split at hs
    · next hn =>
      cases hs
      have ho : h.owed = 0 := hn.2.resolve_left nofun
      exact ⟨by simp [inv.lines_nil (.inr ho)], by simp [inv.lines_nil (.inr ho), ho]⟩
    · cases hs

theorem hatInv_read {h h' : Hat} (inv : HatInv h) {t t₁ l : Nat}
    (hs : h.step (.read t) = some (h', some (t₁, l))) : t₁ = t ∧ l = t := by
  simp only [Hat.step, Hat.stepWith] at hs
  split at hs
  · rename_i hn
    split at hs
    · rename_i l' rest hl
      simp only [Option.some.injEq, Prod.mk.injEq] at hs
      obtain ⟨-, rfl, rfl⟩ := hs
      have := inv.own l' (by rw [hl]; simp)
      rw [hn] at this
      exact ⟨rfl, (Option.some.inj this).symm⟩
    · cases hs
  · cases hs

theorem que_rx_fold (q : Que) (bs : List Nat) :
    let q' := bs.foldl (fun q x => (q.step (.rx x)).1) q
    q'.holder = q.holder ∧ ∃ tagged : List (Nat × Nat),
      q'.raw = q.raw ++ tagged ∧ tagged.map (·.2) = bs ∧ ∀ x ∈ tagged, q.clock < x.1 := by
  induction bs generalizing q with
  | nil => exact ⟨rfl, [], by simp, rfl, by simp⟩
  | cons b bs ih =>
    have := ih (q.step (.rx b)).1
    simp only [List.foldl_cons]
    obtain ⟨hh, tg, hr, hm, hc⟩ := this
    refine ⟨hh, (q.clock + 1, b) :: tg, ?_, ?_, ?_⟩
    · rw [hr]; simp [Que.step, Que.stepWith]
    · simp [hm]
    · intro x hx
      simp only [List.mem_cons] at hx
      rcases hx with rfl | hx
      · simp
      · have := hc x hx
        simp only [Que.step, Que.stepWith] at this
        omega

theorem que_complete (q : Que) (t b : Nat) (bs : List Nat) (hn : q.holder = none) :
    ∃ τ q', ((b :: bs).foldl (fun q x => (q.step (.rx x)).1) (q.step (.flush t)).1).step (.take t)
      = (q', some (t, some (τ, b))) ∧ q.clock < τ := by
  have h1 : (q.step (.flush t)).1 = ⟨q.clock + 1, [], some (t, q.clock)⟩ := by
    simp [Que.step, Que.stepWith, hn]
  obtain ⟨hh, tg, hr, hm, hc⟩ := que_rx_fold (q.step (.flush t)).1 (b :: bs)
  rw [h1] at hh hr hc
  simp only [List.nil_append] at hr
  cases tg with
  | nil => simp at hm
  | cons x rest =>
    simp only [List.map_cons, List.cons.injEq] at hm
    obtain ⟨hx, -⟩ := hm
    have hcx := hc x (by simp)
    simp only at hcx
    refine ⟨x.1, ?_⟩
    rw [h1]
    simp only [Que.step, Que.stepWith] at hh hr ⊢
    rw [hh, hr]
    simp only [if_true]
    exact ⟨_, by rw [← hx], by omega⟩

end DaliVerif.Proofs.RoutingInv
