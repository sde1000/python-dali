import DaliVerif.Proofs.EventLegal
/-!
# Every frame a command / event constructor assembles is a well-formed bit vector

`Cmd.encode` (the constructors' frame assembly) only uses `Frame.new`,
`__setitem__` and the `add_to_frame` of address / instance objects; each of
these establishes or preserves the `Frame` invariant of C05 (`1 ≤ bits`,
`data < 2^bits`).  So the frame handed to a driver always is a value the
drivers' wire encoders (C18) are specified for.
-/
set_option linter.unusedSimpArgs false
namespace DaliVerif.Cmd
open Frame Spec

theorem inst_addToFrame_inv (i : Inst) (f f' : Frame) (hf : Frame.Inv f)
    (h : i.addToFrame f = .ok f') : Frame.Inv f' ∧ f'.bits = f.bits := by
  unfold Inst.addToFrame at h
  split at h
  · contradiction
  · exact setItem_inv hf h

/-- the address objects inside a command object are validly constructed
(Python: they are `Address` instances, whose constructors check the range);
the three catch-all classes carry a frame that was itself well formed -/
def ObjOK : Cmd → Prop
  | .generic b d => 1 ≤ b ∧ d < 2 ^ b
  | .unknownGear d => d < 2 ^ 16
  | .unknownDevice d => d < 2 ^ 24
  | .dapc a _ | .standard _ a _ | .devStd _ a | .devInst _ a _ => a.Valid
  | _ => True

theorem bind_inv {α : Type} {x : PyRes α} {k : α → PyRes Frame} {f : Frame} (h : (x >>= k) = .ok f)
    (hk : ∀ y, k y = .ok f → Frame.Inv f) : Frame.Inv f := by
  obtain ⟨y, _, h⟩ := bind_ok _ _ _ h
  exact hk y h

theorem newFrame_addr_inv (n x : Nat) (a : Addr) (f : Frame) (hv : a.Valid)
    (h : (newFrame n x >>= a.addToFrame) = .ok f) : Frame.Inv f := by
  obtain ⟨f0, h0, h⟩ := bind_ok _ _ _ h
  exact (addr_addToFrame_inv a f0 f (newFrame_inv _ _ _ h0).1 hv h).1

theorem encode_inv (c : Cmd) (f : Frame) (ho : ObjOK c) (h : encode c = .ok f) : Frame.Inv f := by
  cases c with
  | generic b d => cases h; exact ho
  | unknownGear d => cases h; exact ⟨by show 1 ≤ 16; omega, ho⟩
  | unknownDevice d => cases h; exact ⟨by show 1 ≤ 24; omega, ho⟩
  -- range checks first, then a fresh frame that receives the address
  | dapc a p => exact bind_inv h fun _ h => newFrame_addr_inv _ _ a f ho h
  | standard c a p =>
    simp only [encode] at h
    split at h
    · exact bind_inv h fun _ h => newFrame_addr_inv _ _ a f ho h
    · exact newFrame_addr_inv _ _ a f ho h
  | devStd c a => exact newFrame_addr_inv _ _ a f ho h
  | devInst c a i =>
    obtain ⟨f0, h0, h⟩ := bind_ok _ _ _ h
    obtain ⟨f1, h1, h⟩ := bind_ok _ _ _ h
    have i1 := addr_addToFrame_inv a f0 f1 (newFrame_inv _ _ _ h0).1 ho h1
    exact (inst_addToFrame_inv i f1 f i1.1 h).1
  -- range checks first, then the frame is made from its bytes
  | special c p =>
    simp only [encode] at h
    split at h
    · exact bind_inv h fun _ => Frame.new_inv
    · exact Frame.new_inv h
  | shortSpecial c a =>
    cases a with
    | none => exact bind_inv h fun _ => Frame.new_inv
    | some a => exact bind_inv h fun _ h => bind_inv h fun _ => Frame.new_inv
  | initialise c b a =>
    simp only [encode] at h
    split at h
    · obtain ⟨_, hx, _⟩ := bind_ok _ _ _ h
      cases hx
    · split at h
      · exact bind_inv h fun _ => Frame.new_inv
      · exact Frame.new_inv h
  | devSpecial c p1 p2 =>
    simp only [encode] at h
    split at h
    · exact bind_inv h fun _ => Frame.new_inv
    · exact bind_inv h fun _ h => bind_inv h fun _ => Frame.new_inv
    · exact Frame.new_inv h
  | event cls t src body =>
    simp only [encode] at h
    obtain ⟨f1, i1, h⟩ := eventHead_inv h
    cases body with
    | pushbutton pc => cases h; exact i1.2.2.1
    | occupancy a b c d =>
      obtain ⟨g1, e1, h⟩ := bind_ok _ _ _ h
      obtain ⟨g2, e2, h⟩ := bind_ok _ _ _ h
      obtain ⟨g3, e3, h⟩ := bind_ok _ _ _ h
      have j1 := setItem_inv i1.2.2.1 e1
      have j2 := setItem_inv j1.1 e2
      have j3 := setItem_inv j2.1 e3
      exact (setItem_inv j3.1 h).1
    | light v => exact (setData_inv f1 f v i1.2.2.1 i1.2.2.2 h).2
    | unknown d => exact (setData_inv f1 f d i1.2.2.1 i1.2.2.2 h).2
  | unknownEvent t src data =>
    obtain ⟨f1, i1, h⟩ := eventHead_inv h
    exact (setData_inv f1 f data i1.2.2.1 i1.2.2.2 h).2
  | ambiguous sa inum data =>
    obtain ⟨f1, i1, h⟩ := eventHead_inv h
    exact (setData_inv f1 f data i1.2.2.1 i1.2.2.2 h).2

end DaliVerif.Cmd
