import DaliVerif.Proofs.DecodeGear
/-!
# C01: 24-bit command decoding is sound

What `_DeviceCommand.from_frame` returns re-encodes to the frame it was given (`device_sound`).
-/
set_option linter.unusedSimpArgs false
namespace DaliVerif.Cmd
open Frame Spec

theorem devStd_encode (c : DevClass) (a : Addr) (hc : c.opcode < 256) (hv : a.Valid)
    (hg : a.isGear = false) :
    encode (.devStd c a) = .ok ⟨24, 131072 * Addr.addrByte a + 0x1FE00 + c.opcode⟩ := by
  simp only [encode, bind, Except.bind]
  rw [or_eq_add 8 0x1FE00 (by decide) hc, newFrame_ok 24 _ (by omega) (by omega)]
  simp only []
  rw [Addr.addToFrame_device a hv hg _ (by omega)]
  congr 2; omega

theorem devInst_encode (c : DevClass) (a : Addr) (i : Inst) (hc : c.opcode < 256) (hv : a.Valid)
    (hg : a.isGear = false) (hi : i.byte < 256) :
    encode (.devInst c a i) = .ok ⟨24, 131072 * Addr.addrByte a + 65536 + 256 * i.byte + c.opcode⟩ := by
  have hb := Addr.addrByte_lt a hv
  simp only [encode, bind, Except.bind]
  rw [or_eq_add 8 0x10000 (by decide) hc, newFrame_ok 24 _ (by omega) (by omega)]
  simp only []
  rw [Addr.addToFrame_device a hv hg _ (by omega)]
  simp only []
  -- the instance byte goes into bits 15..8, which the opcode and the address left empty
  rw [Inst.addToFrame_ok i hi _ (by omega), setSliceA_of_zero _ (by decide) (by omega)]
  congr 2; omega

theorem devSpecial_encode (c : DevSpecialClass) (p1 p2 : Nat) (hc : c.addr < 256) (h1 : p1 ≤ 255)
    (h2 : p2 ≤ 255) : encode (.devSpecial c p1 p2) = .ok ⟨24, (c.addr * 256 + p1) * 256 + p2⟩ := by
  have hnew := newFrame_bytes3 c.addr p1 p2 hc (by omega) (by omega)
  cases hk : c.kind <;>
    simp only [encode, hk, bind, Except.bind, pure, Except.pure, rangeCheck_ok _ 255 h1,
      rangeCheck_ok _ 255 h2, hnew]

theorem stdDeviceFromFrame_eq (T : Tables) (d : Nat) :
    stdDeviceFromFrame T ⟨24, d⟩ =
      if d / 256 % 512 = 0x1FE then
        match Addr.fromFrame T.addrOrder ⟨24, d⟩, lookup T.devOpcodes (d % 256) with
        | none, _ => none
        | some _, none => some (.unknownDevice d)
        | some a, some cc => some (.devStd cc a)
      else none := by
  simp only [stdDeviceFromFrame, slice, getSliceRaw_eq, Nat.reducePow, Nat.reduceAdd, Nat.reduceSub, Nat.div_one,
    bne_iff_ne, ne_eq, ite_not]
  cases Addr.fromFrame T.addrOrder ⟨24, d⟩ <;> cases lookup T.devOpcodes (d % 256) <;> rfl

theorem stdInstanceFromFrame_eq (T : Tables) (d : Nat) :
    stdInstanceFromFrame T ⟨24, d⟩ =
      if d / 65536 % 2 = 1 then
        match Addr.fromFrame T.addrOrder ⟨24, d⟩, lookup T.instOpcodes (d % 256) with
        | none, _ => none
        | some _, none => some (.unknownDevice d)
        | some a, some cc => some (.devInst cc a (Inst.ofByteModel (d / 256 % 256)))
      else none := by
  simp only [stdInstanceFromFrame, Inst.fromFrame_eq_ofByteModel, bit, bitTest_eq, slice, getSliceRaw_eq,
    Nat.reducePow, Nat.reduceAdd, Nat.reduceSub, Nat.div_one, Bool.not_eq_true', decide_eq_false_iff_not, ite_not]
  cases Addr.fromFrame T.addrOrder ⟨24, d⟩ <;> cases lookup T.instOpcodes (d % 256) <;> rfl

theorem stdDevice_sound (T : Tables) (hT : TableFacts T) (d : Nat) (hd : d < 2 ^ 24) (c : Cmd)
    (h : stdDeviceFromFrame T ⟨24, d⟩ = some c) : encode c = .ok ⟨24, d⟩ := by
  rw [stdDeviceFromFrame_eq] at h
  split at h
  case isFalse => cases h
  split at h <;> cases h
  · rfl
  · rename_i a cc ha hl
    obtain ⟨_, hv, hg, hb⟩ := (Addr.fromFrame_device_iff _ hT.order d a).mp ha
    obtain ⟨hop, hlt, _⟩ := (devEntryOK_iff _ _).mp (hT.dev _ (lookup_mem hl))
    rw [devStd_encode cc a (by omega) hv hg, hb]
    congr 2; omega

theorem stdInstance_sound (T : Tables) (hT : TableFacts T) (d : Nat) (hd : d < 2 ^ 24) (c : Cmd)
    (h : stdInstanceFromFrame T ⟨24, d⟩ = some c) : encode c = .ok ⟨24, d⟩ := by
  rw [stdInstanceFromFrame_eq] at h
  split at h
  case isFalse => cases h
  split at h <;> cases h
  · rfl
  · rename_i a cc ha hl
    obtain ⟨_, hv, hg, hb⟩ := (Addr.fromFrame_device_iff _ hT.order d a).mp ha
    obtain ⟨hop, hlt, _⟩ := (devEntryOK_iff _ _).mp (hT.inst _ (lookup_mem hl))
    have hbyte := Inst.byte_ofByteModel ⟨d / 256 % 256, Nat.mod_lt _ (by decide)⟩
    simp only [] at hbyte
    rw [devInst_encode cc a _ (by omega) hv hg (by omega), hb, hbyte]
    congr 2; omega

theorem devSpecialFromFrame_eq (c : DevSpecialClass) (d : Nat) :
    devSpecialFromFrame c ⟨24, d⟩ =
      match c.kind with
      | .zero =>
          if d / 65536 % 256 = c.addr ∧ d / 256 % 256 = c.inst ∧ d % 256 = 0 then some (.devSpecial c c.inst 0) else none
      | .one =>
          if d / 65536 % 256 = c.addr ∧ d / 256 % 256 = c.inst then some (.devSpecial c c.inst (d % 256)) else none
      | .two => if d / 65536 % 256 = c.addr then some (.devSpecial c (d / 256 % 256) (d % 256)) else none
      | _ => none := by
  simp only [devSpecialFromFrame, slice, getSliceRaw_eq, Nat.reducePow, Nat.reduceAdd, Nat.reduceSub,
    Nat.div_one, Bool.and_eq_true, beq_iff_eq, and_assoc]
  cases c.kind <;> rfl

theorem devSpecial_sound (cs : DevSpecialClass) (d : Nat) (hd : d < 2 ^ 24) (c : Cmd)
    (h : devSpecialFromFrame cs ⟨24, d⟩ = some c) : encode c = .ok ⟨24, d⟩ := by
  rw [devSpecialFromFrame_eq] at h
  -- in every kind the bytes the class matched are its own, the others are carried by the object
  cases hk : cs.kind <;> simp only [hk] at h <;> try contradiction
  all_goals
    split at h <;> cases h
    rename_i hm
    rw [devSpecial_encode cs _ _ (by omega) (by omega) (by omega)]
    congr 2; omega

theorem deviceFromFrame_event (T : Tables) (d : Nat) (h16 : d / 65536 % 2 = 0) :
    deviceFromFrame T ⟨24, d⟩ = none := by
  simp only [deviceFromFrame, bit, bitTest_eq, Nat.reducePow, h16, Nat.zero_ne_one, decide_false, Bool.not_false,
    if_true]

theorem device_sound (T : Tables) (hT : TableFacts T) (d : Nat) (hd : d < 2 ^ 24) (c : Cmd)
    (h : deviceFromFrame T ⟨24, d⟩ = some c) : encode c = .ok ⟨24, d⟩ := by
  unfold deviceFromFrame at h
  split at h
  · contradiction
  · injection h with h
    cases hf : T.devCommands.findSome? _ with
    | none => rw [hf] at h; subst h; rfl
    | some c' =>
      rw [hf] at h
      simp only [Option.getD_some] at h
      subst h
      obtain ⟨e, hmem, he⟩ := List.exists_of_findSome?_eq_some hf
      cases e with
      | unknown => simp at he
      | stdDevice => exact stdDevice_sound T hT d hd _ he
      | stdInstance => exact stdInstance_sound T hT d hd _ he
      | special cs => exact devSpecial_sound cs d hd _ he
      | custom n => simp at he

end DaliVerif.Cmd
