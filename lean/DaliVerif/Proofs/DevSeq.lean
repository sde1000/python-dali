import DaliVerif.Model.DevSeq
import DaliVerif.Spec.DeviceUnit
import DaliVerif.Proofs.DevSeqProg
/-!
The C13 sequences (`Model/DevSeq.lean`) against the specification bus (`Spec/DeviceUnit.lean`):
the arithmetic of the left-aligned input value, the bus seen from one instance (`Bus.Has`),
every read of an answer as `onByte`, the two discovery loops; then the same reads against any
responder (`CleanTo`, `out_onByte`).
-/
namespace DaliVerif.DevMem
open Prog

theorem repBits_lt (n v : Nat) (hv : v < 2 ^ n) : ∀ k, repBits n v k < 2 ^ k := by
  intro k
  induction k using Nat.strongRecOn with
  | _ k ih =>
    rw [repBits]
    split
    · rename_i h
      rw [Nat.shiftRight_eq_div_pow, Nat.div_lt_iff_lt_mul (Nat.two_pow_pos _), ← Nat.pow_add]
      exact Nat.lt_of_lt_of_le hv (Nat.pow_le_pow_right (by decide) (by omega))
    · rename_i h
      rw [Nat.shiftLeft_eq]
      refine Nat.or_lt_two_pow ?_ (Nat.lt_of_lt_of_le (ih (k - n) (by omega))
        (Nat.pow_le_pow_right (by decide) (by omega)))
      rw [show k = n + (k - n) by omega, Nat.pow_add, show n + (k - n) - n = k - n by omega]
      exact Nat.mul_lt_mul_of_pos_right hv (Nat.two_pow_pos _)

theorem repBits_split (n v p : Nat) (hn : 0 < n) (hv : v < 2 ^ n) :
    repBits n v (n + p) >>> p = v := by
  rw [repBits]
  split
  · rename_i h
    have : p = 0 := by omega
    subst this; simp
  · rw [show n + p - n = p by omega]
    apply Nat.eq_of_testBit_eq
    intro j
    have : (repBits n v p).testBit (p + j) = false :=
      Nat.testBit_lt_two_pow (Nat.lt_of_lt_of_le (repBits_lt n v hv p)
        (Nat.pow_le_pow_right (by decide) (by omega)))
    simp [Nat.testBit_shiftRight, Nat.testBit_or, Nat.testBit_shiftLeft, this]

theorem bytesBE_length (x len : Nat) : (bytesBE x len).length = len := by
  induction len with
  | zero => rfl
  | succ k ih => simp [bytesBE, ih]

theorem foldl_bytesBE (x : Nat) : ∀ (len acc : Nat),
    (bytesBE x len).foldl (fun a c => a * 256 + c) acc = acc * 256 ^ len + x % 256 ^ len := by
  intro len
  induction len with
  | zero => intro acc; simp [bytesBE, Nat.mod_one]
  | succ k ih =>
    intro acc
    simp only [bytesBE, List.foldl_cons]
    rw [ih, Nat.shiftRight_eq_div_pow, Nat.mod_pow_succ (b := 256),
      show 2 ^ (8 * k) = 256 ^ k from Nat.pow_mul 2 8 k, Nat.pow_succ]
    generalize 256 ^ k = P
    generalize x / P % 256 = q
    rw [Nat.add_mul, Nat.mul_assoc, Nat.mul_comm 256 P, Nat.mul_comm q P]
    omega

/-- IEC 62386-103 §9.7.2 read backwards: the reported bytes, taken as one big-endian number and
shifted right by the number of fill bits, are the value -/
theorem inputBytes_value (n v : Nat) (hn : 0 < n) (hv : v < 2 ^ n) :
    (inputBytes n v).foldl (fun a c => a * 256 + c) 0 >>> (8 * ((n + 7) / 8) - n) = v := by
  have hlt := repBits_lt n v hv (8 * ((n + 7) / 8))
  rw [Nat.pow_mul] at hlt
  rw [inputBytes, foldl_bytesBE, Nat.zero_mul, Nat.zero_add, Nat.mod_eq_of_lt hlt]
  have := repBits_split n v (8 * ((n + 7) / 8) - n) hn hv
  rwa [show n + (8 * ((n + 7) / 8) - n) = 8 * ((n + 7) / 8) by omega] at this


namespace Bus

theorem setInst_devs_self (b : Bus) (a i : Nat) (x : Instance) (d : Device) (h : b.devs a = some d) :
    (b.setInst a i x).devs a = some { d with instances := d.instances.set i x } := by
  simp [setInst, h]

theorem setInst_devs_other (b : Bus) (a a' i : Nat) (x : Instance) (h : a' ≠ a) :
    (b.setInst a i x).devs a' = b.devs a' := by
  simp [setInst, h]

end Bus

def Bus.Has (b : Bus) (a i : Nat) (d : Device) (x : Instance) : Prop :=
  b.devs a = some d ∧ d.instances[i]? = some x

theorem Bus.step_queryDeviceStatus (b : Bus) (a : Nat) : b.step (.queryDeviceStatus a) =
    (match b.devs a with | some d => .byte d.status | none => .none,
      { b with clock := b.clock + 1 }) := rfl

theorem Bus.step_queryNumberOfInstances (b : Bus) (a : Nat) : b.step (.queryNumberOfInstances a) =
    (match b.devs a with | some d => .byte d.instances.length | none => .none,
      { b with clock := b.clock + 1 }) := rfl

theorem Bus.inst?_of_has {b : Bus} {a i d x} (h : b.Has a i d x) : b.inst? a i = some x := by
  simp [Bus.inst?, h.1, h.2]

namespace Bus

variable {b : Bus} {a i : Nat} {d : Device} {x : Instance}

theorem Has.instQuery (h : b.Has a i d x) (f : Device → Instance → Resp) :
    b.instQuery a i f = f d x := by
  simp only [Bus.instQuery, h.1, h.2]

theorem Has.setInst (h : b.Has a i d x) (y : Instance) :
    (b.setInst a i y).Has a i { d with instances := d.instances.set i y } y :=
  ⟨setInst_devs_self b a i y d h.1,
    List.getElem?_set_self (List.getElem?_eq_some_iff.mp h.2).1⟩

theorem Has.mapDevs (h : b.Has a i d x) (f : Device → Device) (hf : (f d).instances = d.instances) :
    (b.mapDevs f).Has a i (f d) x :=
  ⟨by simp only [Bus.mapDevs, h.1, Option.map_some], hf ▸ h.2⟩

/-! What one forward frame does to a bus that has instance `(a, i)`, one lemma per shape of
command: a DTR load, a query the instance answers from its state (`InstQuery`), and the four commands that change the instance. -/

theorem Has.step_dtr0 (h : b.Has a i d x) (v : Nat) :
    (b.step (.dtr0 true v)).2.Has a i { d with dtr0 := v } x :=
  h.mapDevs ({ · with dtr0 := v }) rfl

/-- the queries instance `(a, i)` answers from its state alone, each with its answer -/
inductive InstQuery (a i : Nat) : Cmd → (Instance → Resp) → Prop
  | scheme : InstQuery a i (.queryEventScheme a i) (.byte ·.scheme)
  | filterL : InstQuery a i (.queryEventFilterL a i) fun x => .byte (x.filter % 256)
  | filterM : InstQuery a i (.queryEventFilterM a i) fun x => .byte (x.filter / 256 % 256)
  | filterH : InstQuery a i (.queryEventFilterH a i) fun x => .byte (x.filter / 65536 % 256)
  | resolution : InstQuery a i (.queryResolution a i) (.byte ·.resolution)
  | itype : InstQuery a i (.queryInstanceType a i) (.byte ·.itype)
  | enabled : InstQuery a i (.queryInstanceEnabled a i) fun x => if x.enabled then .byte 0xFF else .none

theorem Has.step_query (h : b.Has a i d x) {c : Cmd} {f : Instance → Resp} (hc : InstQuery a i c f) :
    b.step c = (f x, { b with clock := b.clock + 1 }) := by
  cases hc <;> simp only [Bus.step, Bus.exec, h.instQuery]

theorem Has.step_setEventScheme (h : b.Has a i d x) (hs : d.dtr0 ≤ 4) :
    ∃ d', (b.step (.setEventScheme a i)).2.Has a i d' { x with scheme := d.dtr0 } := by
  unfold Bus.step Bus.exec
  simp only [h.1, h.2, hs, if_true]
  exact ⟨_, h.setInst _⟩

theorem Has.step_setEventFilter (h : b.Has a i d x) :
    ∃ d', (b.step (.setEventFilter a i)).2.Has a i d'
      { x with filter := (d.dtr2 * 65536 + d.dtr1 * 256 + d.dtr0) % 2 ^ x.filterWidth } := by
  unfold Bus.step Bus.exec
  simp only [h.1, h.2]
  exact ⟨_, h.setInst _⟩

theorem Has.step_queryInputValue (h : b.Has a i d x) {c : Nat} {t : List Nat}
    (hv : inputBytes x.resolution (x.value b.clock) = c :: t) :
    (b.step (.queryInputValue a i)).1 = .byte c ∧
    ∃ d', (b.step (.queryInputValue a i)).2.Has a i d' { x with latch := t } := by
  unfold Bus.step Bus.exec
  simp only [h.1, h.2, hv, true_and]
  exact ⟨_, h.setInst _⟩

theorem Has.step_latch (h : b.Has a i d x) {c : Nat} {t : List Nat} (hl : x.latch = c :: t) :
    (b.step (.queryInputValueLatch a i)).1 = .byte c ∧
    ∃ d', (b.step (.queryInputValueLatch a i)).2.Has a i d' { x with latch := t } := by
  unfold Bus.step Bus.exec
  simp only [h.1, h.2, hl, true_and]
  exact ⟨_, h.setInst _⟩

theorem Has.ite_step_dtr1 (h : b.Has a i d x) (c : Bool) (v : Nat) :
    (if c = true then (b.step (.dtr1 true v)).2 else b).Has a i
      { d with dtr1 := if c = true then v else d.dtr1 } x := by
  cases c
  · exact h
  · exact h.mapDevs _ rfl

theorem Has.ite_step_dtr2 (h : b.Has a i d x) (c : Bool) (v : Nat) :
    (if c = true then (b.step (.dtr2 true v)).2 else b).Has a i
      { d with dtr2 := if c = true then v else d.dtr2 } x := by
  cases c
  · exact h
  · exact h.mapDevs _ rfl

end Bus

theorem Prog.run_ite_send {σ α : Type} (step : σ → Cmd → Resp × σ) (c : Bool) (cmd : Cmd)
    (p : Prog α) (s : σ) : (if c = true then Prog.send cmd fun _ => p else p).run step s =
      p.run step (if c = true then (step s cmd).2 else s) := by
  cases c <;> rfl

/-! Every answer the sequences use is read in one of two ways, which differ only in what happens
when the answer is not a clean byte (`None` from `readFilter`, `DALISequenceError` from
`query_input_value`); some reads are made only when the value is wide enough. -/

/-- `r = yield c`; with a clean answer go on with its byte, otherwise end as `other` -/
def Prog.onByte {α : Type} (c : Cmd) (other : Prog α) (k : Nat → Prog α) : Prog α :=
  .send c fun r => match r with
    | .byte v => k v
    | _ => other

/-- the same under a condition, with `v0` in place of the byte when nothing is read -/
def Prog.onByteIf {α : Type} (cond : Bool) (c : Cmd) (other : Prog α) (v0 : Nat) (k : Nat → Prog α) :
    Prog α :=
  if cond = true then onByte c other k else k v0

theorem readFilter_eq (a i : Nat) (m h : Bool) (md0 hi0 : Nat) : readFilter a i m h md0 hi0 =
    onByte (.queryEventFilterL a i) (.done none) fun lo =>
    onByteIf m (.queryEventFilterM a i) (.done none) md0 fun md =>
    onByteIf h (.queryEventFilterH a i) (.done none) hi0 fun hi =>
    .done (some (lo + 256 * md + 65536 * hi)) := rfl

section run
variable {b : Bus} {a i : Nat} {d : Device} {x : Instance} {α : Type}

/-- a read the instance answers from its state, at any time `n`: only the clock moves -/
theorem Bus.Has.run_onByte (hb : b.Has a i d x) {c : Cmd} {g : Instance → Nat}
    (hc : InstQuery a i c fun x => .byte (g x))
    (other : Prog α) (k : Nat → Prog α) (n : Nat) :
    (onByte c other k).run Bus.step { b with clock := n } =
      (k (g x)).run Bus.step { b with clock := n + 1 } := by
  rw [onByte, run_send, Bus.Has.step_query (b := { b with clock := n }) hb hc]

theorem Bus.Has.run_onByteIf (hb : b.Has a i d x) {c : Cmd} {g : Instance → Nat}
    (hc : InstQuery a i c fun x => .byte (g x))
    (cond : Bool) (other : Prog α) (v0 : Nat) (k : Nat → Prog α) (n : Nat) :
    (onByteIf cond c other v0 k).run Bus.step { b with clock := n } =
      (k (if cond = true then g x else v0)).run Bus.step
        { b with clock := if cond = true then n + 1 else n } := by
  cases cond
  · rfl
  · exact hb.run_onByte hc other k n

theorem readFilter_run (hb : b.Has a i d x) (m h : Bool) (md0 hi0 : Nat) :
    ∃ n, (readFilter a i m h md0 hi0).run Bus.step b =
      (.ok (some (x.filter % 256 + 256 * (if m = true then x.filter / 256 % 256 else md0) +
        65536 * (if h = true then x.filter / 65536 % 256 else hi0))), { b with clock := n }) := by
  rw [readFilter_eq, hb.run_onByte .filterL _ _ b.clock, hb.run_onByteIf .filterM, hb.run_onByteIf .filterH]
  exact ⟨_, rfl⟩

/-- `SetEventFilters` up to its read-back: whatever the DTRs held, the instance's filter is then
what SET EVENT FILTER makes of the bytes that were loaded and, for a part that was not loaded,
of the stale DTR -/
theorem setEventFiltersG_run (hb : b.Has a i d x) (ha : addrOK a i = true) (ld : Bool)
    (w value : Nat) (hv : value < 16777216) :
    ∃ b' d', b'.Has a i d' { x with filter :=
        ((if (decide (w > 16) && ld) = true then value / 65536 % 256 else d.dtr2) * 65536 +
          (if decide (w > 8) = true then value / 256 % 256 else d.dtr1) * 256 + value % 256) %
            2 ^ x.filterWidth } ∧
      (setEventFiltersG ld a i (some w) value).run Bus.step b =
        (readFilter a i (decide (w > 8)) (decide (w > 16)) (value / 256 % 256)
          (value / 65536 % 256)).run Bus.step b' := by
  have hc : ¬ ((value : Int) < 0 ∨ (value : Int) ≥ 16777216) := by omega
  have h2 := ((hb.step_dtr0 (value % 256)).ite_step_dtr1 (decide (w > 8)) (value / 256 % 256)).ite_step_dtr2
    (decide (w > 16) && ld) (value / 65536 % 256)
  obtain ⟨d', h3⟩ := h2.step_setEventFilter
  refine ⟨_, d', h3, ?_⟩
  rw [setEventFiltersG, ha, Bool.not_true, if_neg Bool.false_ne_true]
  simp only [hc, if_false, Int.toNat_natCast, run_send, run_ite_send]


/-- the three bytes `SetEventFilters` loads make up the value, for a filter of 8, 16 or 24 bits
whatever the registers held that it does not load -/
theorem filter_of_bytes (w value s1 s2 : Nat) (hw : w = 8 ∨ w = 16 ∨ w = 24) (hv : value < 2 ^ w) :
    ((if decide (w > 16) = true then value / 65536 % 256 else s2) * 65536 +
      (if decide (w > 8) = true then value / 256 % 256 else s1) * 256 + value % 256) % 2 ^ w =
      value := by
  rcases hw with rfl | rfl | rfl <;> simp at hv ⊢ <;> omega

/-- the `while resolution > 8` loop reads the latched bytes `L` and drops the fill bits -/
theorem qivLoop_run : ∀ (L : List Nat) (b : Bus) (d : Device) (x : Instance) (res value : Nat),
    b.Has a i d x → x.latch = L → 8 * L.length < res → res ≤ 8 * L.length + 8 →
    ((qivLoop a i res value).run Bus.step b).1 =
      .ok (L.foldl (fun acc c => acc * 256 + c) value >>> (8 * L.length + 8 - res))
  | [], b, d, x, res, value, _, _, h0, h8 => by
    rw [qivLoop, dif_neg (by simpa using h8), if_pos (by simpa using h0)]
    rfl
  | c :: t, b, d, x, res, value, hb, hl, h0, h8 => by
    rw [List.length_cons] at h0 h8
    obtain ⟨hr, d', hb'⟩ := hb.step_latch hl
    rw [qivLoop, dif_pos (by omega), run_send, hr]
    have := qivLoop_run t _ d' _ (res - 8) (value * 256 + c) hb' rfl (by omega) (by omega)
    rw [this, List.length_cons, List.foldl_cons, show 8 * (t.length + 1) + 8 - res = 8 * t.length + 8 - (res - 8) by omega]

end run

theorem unhealthy_iff (st : Nat) : unhealthy st = true ↔ st / 4 % 2 = 1 ∨ st / 64 % 2 = 1 :=
  decide_eq_true_iff

/-- the loop over the instances `xs` that device `d` has from number `i` on -/
theorem scanInstances_run {D : Nat → Option Device} {a : Nat} {d : Device} (hd : D a = some d)
    (k : TypeLog → Prog TypeLog) (q : Bool) :
    ∀ (xs : List Instance) (i : Nat) (log : TypeLog) (c : Nat),
      d.instances.drop i = xs → i + xs.length ≤ 32 →
      ∃ c', (scanInstances a xs.length i log k).run Bus.step ⟨c, D, q⟩ =
        (k (log ++ instEntries a xs i)).run Bus.step ⟨c', D, q⟩
  | [], i, log, c, _, _ => ⟨c, by rw [instEntries, List.append_nil]; rfl⟩
  | x :: xs, i, log, c, H, hlen => by
    rw [List.length_cons] at hlen
    have hx : Bus.Has ⟨c, D, q⟩ a i d x := ⟨hd, by rw [← List.head?_drop, H]; rfl⟩
    have ih := fun log' c' => scanInstances_run hd k q xs (i + 1) log' c'
      (by rw [← List.tail_drop, H]; rfl) (by omega)
    rw [List.length_cons, scanInstances, if_neg (by omega), run_send,
      hx.step_query .enabled, instEntries]
    cases hen : x.enabled
    · exact ih log (c + 1)
    · obtain ⟨c', h⟩ := ih (log ++ [((a, i), x.itype)]) (c + 1 + 1)
      refine ⟨c', ?_⟩
      simp only [if_true, run_send, Bus.Has.step_query (b := ⟨c + 1, D, q⟩) hx .itype]
      rw [← List.append_assoc]
      exact h

theorem scanDevices_cons_run (D : Nat → Option Device) (a : Nat) (ha : a ≤ 63)
    (hD : ∀ d, D a = some d → d.instances.length ≤ 32) (rest : List Nat) (log : TypeLog)
    (c : Nat) (q : Bool) :
    ∃ c', (scanDevices (a :: rest) log).run Bus.step ⟨c, D, q⟩ =
      (scanDevices rest (log ++ devEntries D a)).run Bus.step ⟨c', D, q⟩ := by
  rw [scanDevices, if_neg (by omega), run_send, devEntries, Bus.step_queryDeviceStatus]
  cases hda : D a with
  | none => exact ⟨c + 1, by simp only [hda, List.append_nil]⟩
  | some d =>
    simp only [hda, unhealthy_iff]
    split
    · exact ⟨c + 1, by rw [List.append_nil]⟩
    · obtain ⟨c', h⟩ := scanInstances_run hda (scanDevices rest) q d.instances 0 log (c + 1 + 1)
        rfl (by have := hD d hda; omega)
      rw [run_send, Bus.step_queryNumberOfInstances]
      simp only [hda]
      exact ⟨c', h⟩

theorem scanDevices_run (D : Nat → Option Device)
    (hD : ∀ a d, D a = some d → d.instances.length ≤ 32) (q : Bool) :
    ∀ (addrs : List Nat) (log : TypeLog) (c : Nat), (∀ a ∈ addrs, a ≤ 63) →
      ∃ c', (scanDevices addrs log).run Bus.step ⟨c, D, q⟩ =
        (.ok (log ++ expectedLog D addrs), ⟨c', D, false⟩)
  | [], log, c, _ => ⟨c + 1, by rw [expectedLog, List.flatMap_nil, List.append_nil]; rfl⟩
  | a :: rest, log, c, haddr => by
    obtain ⟨c1, h1⟩ := scanDevices_cons_run D a (haddr a List.mem_cons_self) (hD a) rest log c q
    obtain ⟨c', h⟩ := scanDevices_run D hD q rest (log ++ devEntries D a) c1
      fun x hx => haddr x (List.mem_cons_of_mem _ hx)
    exact ⟨c', by rw [h1, h, expectedLog, expectedLog, List.flatMap_cons, List.append_assoc]⟩

theorem mem_instEntries (a : Nat) (e : (Nat × Nat) × Nat) :
    ∀ (xs : List Instance) (i : Nat),
      e ∈ instEntries a xs i ↔ ∃ j x, xs[j]? = some x ∧ x.enabled = true ∧ e = ((a, i + j), x.itype)
  | [], i => by simp [instEntries]
  | y :: ys, i => by
    rw [instEntries, List.mem_append, mem_instEntries a e ys (i + 1)]
    constructor
    · rintro (h | ⟨j, x, hx, hen, rfl⟩)
      · split at h
        · exact ⟨0, y, rfl, ‹_›, List.mem_singleton.mp h⟩
        · cases h
      · exact ⟨j + 1, x, hx, hen, by rw [Nat.add_right_comm]; rfl⟩
    · rintro ⟨j | j, x, hx, hen, rfl⟩
      · cases hx
        exact .inl (by rw [if_pos hen]; exact List.mem_singleton.mpr rfl)
      · exact .inr ⟨j, x, hx, hen, by rw [Nat.add_right_comm]; rfl⟩

theorem lookupLog_of_mem_iff (log : TypeLog) (init : Nat × Nat → Option Nat) (key : Nat × Nat)
    (o : Option Nat) (h : ∀ t, (key, t) ∈ log ↔ o = some t) :
    lookupLog log init key = match (generalizing := false) o with | some t => some t | none => init key := by
  unfold lookupLog
  cases hf : log.reverse.find? (fun e => e.1 == key) with
  | none =>
    cases o with
    | none => rfl
    | some t => simpa using List.find?_eq_none.mp hf _ (List.mem_reverse.mpr ((h t).mpr rfl))
  | some e =>
    obtain ⟨k, t⟩ := e
    have hk : k = key := by simpa using List.find?_some hf
    rw [(h t).mp (hk ▸ List.mem_reverse.mp (List.mem_of_find?_eq_some hf))]

theorem mem_expectedLog (D : Nat → Option Device) (addrs : List Nat) (a i t : Nat) :
    ((a, i), t) ∈ expectedLog D addrs ↔ expectedType D addrs a i = some t := by
  have inst (a' : Nat) (d : Device) : ((a, i), t) ∈ instEntries a' d.instances 0 ↔
      a' = a ∧ ∃ x, d.instances[i]? = some x ∧ x.enabled = true ∧ x.itype = t := by
    simp only [mem_instEntries, Nat.zero_add, Prod.mk.injEq]
    exact ⟨fun ⟨j, x, hx, hen, ⟨ha, hi⟩, ht⟩ => ⟨ha.symm, x, hi ▸ hx, hen, ht.symm⟩,
      fun ⟨ha, x, hx, hen, ht⟩ => ⟨i, x, hx, hen, ⟨ha.symm, rfl⟩, ht.symm⟩⟩
  simp only [expectedLog, List.mem_flatMap, devEntries, expectedType]
  constructor
  · rintro ⟨a', ha', he⟩
    split at he
    · split at he
      · cases he
      · obtain ⟨rfl, x, hx, hen, rfl⟩ := (inst _ _).mp he
        simp [*]
    · cases he
  · intro h
    refine ⟨a, ?_⟩
    split at h
    · split at h
      · split at h
        · simp_all
        · cases h
      · cases h
    · cases h

def AllBytes (tr : List (Cmd × Resp)) : Prop := ∀ cr ∈ tr, ∃ b, cr.2 = .byte b

theorem allBytes_nil : AllBytes [] := by intro cr h; cases h

theorem allBytes_cons (c : Cmd) (r : Resp) (tr : List (Cmd × Resp)) :
    AllBytes ((c, r) :: tr) ↔ (∃ b, r = .byte b) ∧ AllBytes tr := by
  simp [AllBytes]

theorem allBytes_append (p q : List (Cmd × Resp)) : AllBytes (p ++ q) ↔ AllBytes p ∧ AllBytes q := by
  simp only [AllBytes, List.mem_append, or_imp, forall_and]

/-- `tr` is what is left of the exchange `T` after answers that were all clean bytes -/
def CleanTo (T tr : List (Cmd × Resp)) : Prop := ∃ pre, T = pre ++ tr ∧ AllBytes pre

theorem cleanTo_self (T : List (Cmd × Resp)) : CleanTo T T := ⟨[], rfl, allBytes_nil⟩

theorem CleanTo.allBytes {T : List (Cmd × Resp)} (h : CleanTo T []) : AllBytes T := by
  obtain ⟨pre, rfl, hp⟩ := h
  rwa [List.append_nil]

section responder
variable {α : Type} {c : Cmd} {other : Prog α} {k : Nat → Prog α} {T tr : List (Cmd × Resp)}
  {out : PyRes α}

/-- one read against any responder, inside the exchange `T`: a clean byte that `T` holds and the
sequence goes on, or `T` has an answer that is no byte and the sequence ends as `other` -/
theorem out_onByte (h : Out (onByte c other k) tr out) (hc : CleanTo T tr) :
    (∃ v tr', (c, .byte v) ∈ T ∧ CleanTo T tr' ∧ Out (k v) tr' out) ∨
    (¬ AllBytes T ∧ ∃ tr', Out other tr' out) := by
  obtain ⟨pre, rfl, hp⟩ := hc
  obtain ⟨r, tr', rfl, hk⟩ := (out_send _ _ _ _).mp h
  have hmem : (c, r) ∈ pre ++ (c, r) :: tr' := List.mem_append_right _ List.mem_cons_self
  cases r with
  | byte v =>
    refine .inl ⟨v, tr', hmem, ⟨pre ++ [(c, .byte v)], by rw [List.append_assoc]; rfl, ?_⟩, hk⟩
    exact (allBytes_append _ _).mpr ⟨hp, (allBytes_cons _ _ _).mpr ⟨⟨v, rfl⟩, allBytes_nil⟩⟩
  | _ => exact .inr ⟨fun hab => by simpa using hab _ hmem, tr', hk⟩

theorem out_onByteIf {cond : Bool} {v0 : Nat} (h : Out (onByteIf cond c other v0 k) tr out)
    (hc : CleanTo T tr) :
    (∃ v tr', (if cond = true then (c, .byte v) ∈ T else v = v0) ∧ CleanTo T tr' ∧
      Out (k v) tr' out) ∨
    (¬ AllBytes T ∧ ∃ tr', Out other tr' out) := by
  cases cond
  · exact .inl ⟨v0, tr, rfl, hc, h⟩
  · exact out_onByte h hc

/-- a read that raises `e` on anything but a clean byte: an exchange of clean bytes only is
necessary for a value, and `e` is the only failure -/
theorem onByte_fail_faults {e : PyErr} (h : Out (onByte c (.fail e) k) tr out) (hc : CleanTo T tr)
    (hk : ∀ v tr', CleanTo T tr' → Out (k v) tr' out →
      (out = .error e ∧ ¬ AllBytes T) ∨ (∃ x, out = .ok x ∧ AllBytes T)) :
    (out = .error e ∧ ¬ AllBytes T) ∨ (∃ x, out = .ok x ∧ AllBytes T) := by
  rcases out_onByte h hc with ⟨v, tr', -, hc', h'⟩ | ⟨hb, tr', h'⟩
  · exact hk v tr' hc' h'
  · exact .inl ⟨((out_fail _ _ _).mp h').2, hb⟩

end responder

theorem qivLoop_faults (a i : Nat) {T : List (Cmd × Resp)} {out : PyRes Nat} :
    ∀ (res value : Nat) (tr : List (Cmd × Resp)), CleanTo T tr → Out (qivLoop a i res value) tr out →
      (out = .error .DALISequenceError ∧ ¬ AllBytes T) ∨ (∃ v, out = .ok v ∧ AllBytes T) := by
  intro res
  induction res using Nat.strongRecOn with
  | _ res ih =>
    intro value tr hc h
    rw [qivLoop] at h
    split at h
    · exact onByte_fail_faults h hc fun c tr' hc' h' => ih (res - 8) (by omega) _ tr' hc' h'
    · obtain ⟨rfl, rfl⟩ := (out_done _ _ _).mp h
      exact .inr ⟨_, rfl, hc.allBytes⟩

end DaliVerif.DevMem
