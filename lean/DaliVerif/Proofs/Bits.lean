import DaliVerif.Model.Frame
/-!
# Bridging lemmas: Python's shift/mask slice operations on `Nat`

`getSliceRaw` / `setSliceRaw` / `setBitRaw` are characterised bit by bit
(`Nat.testBit`) and in arithmetic form (`/ 2^k`, `% 2^k`), after which codec
proofs are linear arithmetic over numerals.  At the end: `toBytesBE` / `ofBytesBE`
(`to_bytes` / `from_bytes`, big-endian) are inverse up to `% 256 ^ len`.  First, Python's
checks of a value against a width (`bit_length`, sign) as a range.
-/
namespace DaliVerif

theorem bitLength_le_iff (m n : Nat) : bitLength (m : Int) ≤ n ↔ m < 2 ^ n := by
  unfold bitLength
  by_cases h : m = 0
  · subst h; simp; exact Nat.two_pow_pos n
  · have h' : ¬ ((m : Int) = 0) := by omega
    simp only [h', if_false, Int.natAbs_natCast]
    rw [← Nat.log2_lt h]; omega

/-- Python's two value checks (`bit_length() > n`, `< 0`) are the range `0 ≤ v < 2^n` -/
theorem value_checks (v : Int) (n : Nat) :
    (¬ (bitLength v > n) ∧ ¬ (v < 0)) ↔ (0 ≤ v ∧ v < (2 ^ n : Int)) := by
  cases v with
  | ofNat m =>
    have h1 := bitLength_le_iff m n
    have h2 : ((m : Int) < 2 ^ n) ↔ m < 2 ^ n := by norm_cast
    simp only [Int.ofNat_eq_natCast]
    omega
  | negSucc m =>
    have := Int.negSucc_lt_zero m
    omega

theorem toNat_lt_two_pow {x : Int} {n : Nat} (h : x < (2 ^ n : Int)) : x.toNat < 2 ^ n := by
  rw [Int.toNat_lt' (Nat.two_pow_pos n)]
  exact_mod_cast h

/-- bit `i`, as the mask `2 ^ i` reads it -/
theorem and_two_pow (x i : Nat) : x &&& 2 ^ i = x / 2 ^ i % 2 * 2 ^ i := by
  rw [← Nat.div_add_mod' (x &&& 2 ^ i) (2 ^ i), Nat.and_div_two_pow, Nat.and_mod_two_pow,
    Nat.div_self (Nat.two_pow_pos i), Nat.mod_self, Nat.and_zero, Nat.and_one_is_mod, Nat.add_zero]

theorem shiftLeft_or (a : Nat) {b i : Nat} (hb : b < 2 ^ i) : a <<< i ||| b = a * 2 ^ i + b := by
  rw [← Nat.shiftLeft_add_eq_or_of_lt hb, Nat.shiftLeft_eq]

/-- `|||` of a multiple of `2 ^ i` and a number below `2 ^ i` adds them: how the constructors put an opcode under a
fixed upper part -/
theorem or_eq_add (i k : Nat) {c : Nat} (hk : 2 ^ i ∣ k) (hc : c < 2 ^ i) : k ||| c = k + c := by
  have := shiftLeft_or (k / 2 ^ i) hc
  rwa [Nat.shiftLeft_eq, Nat.div_mul_cancel hk] at this

namespace Frame

theorem mask_eq (w : Nat) : mask w = 2 ^ w - 1 := by
  simp [mask, Nat.one_shiftLeft]

theorem testBit_eq_false_of_lt {d bits j : Nat} (hd : d < 2 ^ bits) (hj : bits ≤ j) :
    d.testBit j = false :=
  Nat.testBit_lt_two_pow (Nat.lt_of_lt_of_le hd (Nat.pow_le_pow_right (by omega) hj))

theorem getSliceRaw_eq (d hi lo : Nat) :
    getSliceRaw d hi lo = d / 2 ^ lo % 2 ^ (hi + 1 - lo) := by
  simp [getSliceRaw, mask_eq, Nat.shiftRight_eq_div_pow, Nat.and_two_pow_sub_one_eq_mod]

theorem testBit_getSliceRaw (d hi lo j : Nat) :
    (getSliceRaw d hi lo).testBit j = (decide (j < hi + 1 - lo) && d.testBit (lo + j)) := by
  simp [getSliceRaw, mask_eq, Nat.testBit_shiftRight, Bool.and_comm]

theorem getSliceRaw_lt (d hi lo : Nat) : getSliceRaw d hi lo < 2 ^ (hi + 1 - lo) := by
  rw [getSliceRaw_eq]; exact Nat.mod_lt _ (Nat.two_pow_pos _)

theorem testBit_setSliceRaw (bits d hi lo v i : Nat)
    (hlo : lo ≤ hi) (hhi : hi < bits) (hd : d < 2 ^ bits) (hv : v < 2 ^ (hi + 1 - lo)) :
    (setSliceRaw bits d hi lo v).testBit i =
      if lo ≤ i ∧ i ≤ hi then v.testBit (i - lo) else d.testBit i := by
  have hdi : bits ≤ i → d.testBit i = false := testBit_eq_false_of_lt hd
  have hvi : hi + 1 - lo ≤ i - lo → v.testBit (i - lo) = false := testBit_eq_false_of_lt hv
  simp only [setSliceRaw, mask_eq, Nat.testBit_or, Nat.testBit_and, Nat.testBit_xor,
    Nat.testBit_shiftLeft, Nat.testBit_two_pow_sub_one]
  grind

/-- structured arithmetic form of a slice write: high part, new field, low part -/
def setSliceA (d hi lo v : Nat) : Nat :=
  2 ^ lo * (2 ^ (hi + 1 - lo) * (d / 2 ^ (hi + 1)) + v) + d % 2 ^ lo

theorem setSliceRaw_eqA (bits d hi lo v : Nat)
    (hlo : lo ≤ hi) (hhi : hi < bits) (hd : d < 2 ^ bits) (hv : v < 2 ^ (hi + 1 - lo)) :
    setSliceRaw bits d hi lo v = setSliceA d hi lo v := by
  apply Nat.eq_of_testBit_eq
  intro i
  rw [testBit_setSliceRaw bits d hi lo v i hlo hhi hd hv, setSliceA,
    Nat.testBit_two_pow_mul_add _ (Nat.mod_lt _ (Nat.two_pow_pos lo)),
    Nat.testBit_two_pow_mul_add _ hv, Nat.testBit_div_two_pow, Nat.testBit_mod_two_pow]
  -- above the field, bit `i` of `d` is found at its own position again
  have : hi + 1 + (i - lo - (hi + 1 - lo)) = i ∨ i ≤ hi := by omega
  grind

theorem setSliceA_of_lt {d hi : Nat} (hd : d < 2 ^ (hi + 1)) (lo v : Nat) :
    setSliceA d hi lo v = 2 ^ lo * v + d % 2 ^ lo := by
  rw [setSliceA, Nat.div_eq_of_lt hd, Nat.mul_zero, Nat.zero_add]

theorem setSliceA_setSliceA (d hi m lo v w : Nat) (hlo : lo ≤ m + 1) (hm : m ≤ hi) :
    setSliceA (setSliceA d hi (m + 1) v) m lo w = setSliceA d hi lo (2 ^ (m + 1 - lo) * v + w) := by
  have hp := Nat.two_pow_pos (m + 1)
  have h1 : setSliceA d hi (m + 1) v / 2 ^ (m + 1) =
      2 ^ (hi + 1 - (m + 1)) * (d / 2 ^ (hi + 1)) + v := by
    rw [setSliceA, Nat.mul_add_div hp, Nat.div_eq_of_lt (Nat.mod_lt _ hp), Nat.add_zero]
  have h2 : setSliceA d hi (m + 1) v % 2 ^ lo = d % 2 ^ lo := by
    rw [setSliceA, ← Nat.sub_add_cancel hlo, Nat.pow_add, Nat.mul_comm (2 ^ _), Nat.mul_assoc,
      Nat.mul_add_mod, Nat.mod_mul_right_mod]
  have h3 : 2 ^ (hi + 1 - lo) = 2 ^ (m + 1 - lo) * 2 ^ (hi + 1 - (m + 1)) := by
    rw [← Nat.pow_add]; congr 1; omega
  rw [setSliceA, h1, h2, setSliceA, h3, Nat.mul_assoc, Nat.mul_add (2 ^ (m + 1 - lo)),
    Nat.add_assoc]

theorem setSliceRaw_lt (bits d hi lo v : Nat)
    (hlo : lo ≤ hi) (hhi : hi < bits) (hd : d < 2 ^ bits) (hv : v < 2 ^ (hi + 1 - lo)) :
    setSliceRaw bits d hi lo v < 2 ^ bits := by
  apply Nat.lt_pow_two_of_testBit
  intro j hj
  rw [testBit_setSliceRaw bits d hi lo v j hlo hhi hd hv]
  have : ¬ (lo ≤ j ∧ j ≤ hi) := by omega
  simp [this, testBit_eq_false_of_lt hd hj]

theorem setSliceRaw_setSliceRaw (bits d hi m lo v w : Nat) (hlo : lo ≤ m) (hm : m < hi)
    (hhi : hi < bits) (hd : d < 2 ^ bits) (hv : v < 2 ^ (hi + 1 - (m + 1)))
    (hw : w < 2 ^ (m + 1 - lo)) :
    setSliceRaw bits (setSliceRaw bits d hi (m + 1) v) m lo w =
      setSliceA d hi lo (2 ^ (m + 1 - lo) * v + w) := by
  rw [setSliceRaw_eqA _ _ _ _ _ hlo (by omega) (setSliceRaw_lt _ _ _ _ _ hm hhi hd hv) hw,
    setSliceRaw_eqA _ _ _ _ _ hm hhi hd hv, setSliceA_setSliceA _ _ _ _ _ _ (by omega) (by omega)]

theorem testBit_setBitRaw (bits d k : Nat) (v : Bool) (i : Nat) (hd : d < 2 ^ bits) :
    (setBitRaw bits d k v).testBit i = if i = k then v else d.testBit i := by
  have hdi : bits ≤ i → d.testBit i = false := testBit_eq_false_of_lt hd
  cases v <;>
    simp only [setBitRaw, mask_eq, Bool.false_eq_true, if_false, if_true, Nat.testBit_and,
      Nat.testBit_or, Nat.testBit_xor, Nat.testBit_two_pow_sub_one, Nat.one_shiftLeft,
      Nat.testBit_two_pow] <;>
    grind

theorem setBitRaw_lt (bits d k : Nat) (v : Bool) (hk : k < bits) (hd : d < 2 ^ bits) :
    setBitRaw bits d k v < 2 ^ bits := by
  apply Nat.lt_pow_two_of_testBit
  intro j hj
  rw [testBit_setBitRaw bits d k v j hd]
  have : ¬ j = k := by omega
  simp [this, testBit_eq_false_of_lt hd hj]

theorem getBitRaw_eq_testBit (d k : Nat) : getBitRaw d k = d.testBit k := by
  have := Nat.two_pow_pos k
  rw [getBitRaw, Nat.one_shiftLeft, and_two_pow, Nat.testBit_eq_decide_div_mod_eq]
  rcases Nat.mod_two_eq_zero_or_one (d / 2 ^ k) with h | h <;> simp [h] <;> omega

theorem ofBytesBE_append_singleton (l : List Nat) (b : Nat) :
    ofBytesBE (l ++ [b]) = ofBytesBE l * 256 + b := by
  simp [ofBytesBE, List.foldl_append]

theorem toBytesBE_length (n len : Nat) : (toBytesBE n len).length = len := by
  induction len generalizing n with
  | zero => simp [toBytesBE]
  | succ k ih => simp [toBytesBE, ih]

theorem ofBytesBE_toBytesBE (n len : Nat) : ofBytesBE (toBytesBE n len) = n % 256 ^ len := by
  induction len generalizing n with
  | zero => simp [toBytesBE, ofBytesBE, Nat.mod_one]
  | succ k ih =>
    rw [toBytesBE, ofBytesBE_append_singleton, ih, Nat.pow_succ, Nat.mul_comm (256 ^ k) 256,
      Nat.mod_mul]
    omega

theorem toBytesBE_lt (n len : Nat) : ∀ b ∈ toBytesBE n len, b < 256 := by
  induction len generalizing n with
  | zero => simp [toBytesBE]
  | succ k ih =>
    intro b hb
    simp only [toBytesBE, List.mem_append, List.mem_singleton] at hb
    rcases hb with hb | hb
    · exact ih _ _ hb
    · omega

end Frame
end DaliVerif
