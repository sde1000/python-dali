import DaliVerif.Proofs.SerialRxSci
/-!
The LUBA receiver against `lubaDeframe`.  The 24-entry buffer and its index are abstracted to the bytes of the frame in
progress (`AState`, `Rel`); `astep` says what one byte does to them and `sim` that `Luba.step` does the same; every
buffer write is in range because the frame in progress is shorter than the buffer (`ainv_room`).  `run_deframe` is
the refinement, `remaining` the measure behind the resynchronisation bound.  The abstraction is written with the
numbers of the tree: 24 = `luba_MAX_LEN`, 20 = `luba_MAX_LEN - 4` = `lubaMaxPayload` (`Props.C19.luba_consts`).
-/
namespace DaliVerif.Proofs.SerialRx
open DaliVerif SerialRx Spec.Deframe
open Gen.DriverConsts

structure AState where
  acc : List Nat
  rxdt : Nat
  txdt : Nat

/-- does the byte extend the frame in progress?  If not it ends it (as its checksum) or makes the receiver give it up. -/
def grows : List Nat → Nat → Bool
  | [], b => b = 0x59
  | [_], _ => true
  | [_, _], b => 0 < b ∧ b ≤ 20
  | _ :: _ :: n :: p, _ => p.length < n

def astep (o : Oracle) (a : AState) (b : Nat) : AState × List Item × Option RxErr :=
  if grows a.acc b then ({ a with acc := a.acc ++ [b] }, [], none)
  else if 3 ≤ a.acc.length ∧ xorAll (a.acc.drop 1) = b ∧ Luba.knownCmd (a.acc.getD 1 0) = true then
    match Luba.dispatch o a.rxdt a.txdt (a.acc ++ [b]) with
    | .error e => (a, [], some (.handler e))
    | .ok (rx, tx, items) => (⟨[], rx, tx⟩, items, none)
  else ({ a with acc := [] }, [], none)

/-- shape of the frame in progress -/
def AInv (acc : List Nat) : Prop :=
  acc = [] ∨ acc = [0x59] ∨ (∃ c, acc = [0x59, c]) ∨
  (∃ c n p, acc = 0x59 :: c :: n :: p ∧ 1 ≤ n ∧ n ≤ 20 ∧ p.length ≤ n)

def phaseOf : List Nat → Luba.Phase
  | [] => .waitStart
  | [_] => .waitCommand
  | [_, _] => .waitLength
  | _ :: _ :: n :: p => if p.length < n then .loopRead else .waitChecksum

def Rel (s : Luba.State) (a : AState) : Prop :=
  s.rxdt = a.rxdt ∧ s.txdt = a.txdt ∧ AInv a.acc ∧ s.phase = phaseOf a.acc ∧
  (∃ tail, s.buf = a.acc ++ tail ∧ a.acc.length + tail.length = 24) ∧
  s.received = a.acc.length - 3 ∧ (3 ≤ a.acc.length → s.expected = a.acc.getD 2 0)

theorem astep_err (o : Oracle) (a : AState) (b : Nat) (e : RxErr) (h : (astep o a b).2.2 = some e) :
    ∃ x, e = .handler x := by
  unfold astep at h
  split at h
  · cases h
  · split at h
    · split at h
      · exact ⟨_, (Option.some.inj h).symm⟩
      · cases h
    · cases h

theorem ainv_grows {acc : List Nat} {b : Nat} (h : AInv acc) (hg : grows acc b = true) : AInv (acc ++ [b]) := by
  rcases h with h | h | ⟨c, h⟩ | ⟨c, n, p, h, hn1, hn20, hp⟩ <;> subst h
  · simp [grows] at hg; subst hg; exact Or.inr (Or.inl rfl)
  · exact Or.inr (Or.inr (Or.inl ⟨b, rfl⟩))
  · simp [grows] at hg
    exact Or.inr (Or.inr (Or.inr ⟨c, b, [], rfl, hg.1, hg.2, Nat.zero_le _⟩))
  · simp [grows] at hg
    exact Or.inr (Or.inr (Or.inr ⟨c, n, p ++ [b], rfl, hn1, hn20, by simp; omega⟩))

theorem rel_init : Rel Luba.init ⟨[], 0, 0⟩ := by
  refine ⟨rfl, rfl, Or.inl rfl, rfl, ⟨List.replicate 24 0, ?_, ?_⟩, rfl, ?_⟩
  · simp [Luba.init, luba_MAX_LEN]
  · simp
  · intro h; simp at h

/-- how `Rel` is established: the buffer holds the frame in progress, then whatever was there before -/
theorem rel_mk {acc tail : List Nat} {ex rx tx : Nat} (hinv : AInv acc) (hlen : acc.length + tail.length = 24)
    (hex : 3 ≤ acc.length → ex = acc.getD 2 0) :
    Rel ⟨phaseOf acc, acc ++ tail, ex, acc.length - 3, rx, tx⟩ ⟨acc, rx, tx⟩ :=
  ⟨rfl, rfl, hinv, rfl, ⟨tail, rfl, hlen⟩, rfl, hex⟩

theorem rel_reset (rx tx : Nat) : Rel ⟨.waitStart, List.replicate luba_MAX_LEN 0, 0, 0, rx, tx⟩ ⟨[], rx, tx⟩ :=
  rel_mk (acc := []) (Or.inl rfl) rfl (by simp)

theorem ainv_length {acc : List Nat} (h : AInv acc) : acc.length ≤ 23 := by
  rcases h with h | h | ⟨c, h⟩ | ⟨c, n, p, h, _, _, _⟩ <;> subst h <;> simp only [List.length_cons, List.length_nil] <;>
    omega

/-- a frame in progress is shorter than the buffer: there is an entry behind it … -/
theorem ainv_room {acc tail : List Nat} (h : AInv acc) (hlen : acc.length + tail.length = 24) :
    ∃ t tail', tail = t :: tail' := by
  have := ainv_length h
  cases tail with
  | nil => simp only [List.length_nil] at hlen; omega
  | cons t tail' => exact ⟨t, tail', rfl⟩

/-- … and that is the entry every write of `_process_byte` goes to -/
theorem bufSet_append (acc tail : List Nat) (t b : Nat) :
    bufSet (acc ++ t :: tail) acc.length b = some ((acc ++ [b]) ++ tail) := by
  simp [bufSet]

/-- `rel_mk` after a byte that extends the frame in progress -/
theorem rel_grow {acc tail : List Nat} {b ex rx tx : Nat} (hinv : AInv acc) (hg : grows acc b = true)
    (hlen : acc.length + (tail.length + 1) = 24) (hex : 3 ≤ (acc ++ [b]).length → ex = (acc ++ [b]).getD 2 0) :
    Rel ⟨phaseOf (acc ++ [b]), acc ++ [b] ++ tail, ex, (acc ++ [b]).length - 3, rx, tx⟩ ⟨acc ++ [b], rx, tx⟩ :=
  rel_mk (ainv_grows hinv hg) (by simp only [List.length_append, List.length_cons, List.length_nil]; omega) hex

theorem sim (o : Oracle) (s : Luba.State) (a : AState) (b : Nat) (h : Rel s a) :
    (Luba.step o s b).items = (astep o a b).2.1 ∧ (Luba.step o s b).err = (astep o a b).2.2 ∧
    Rel (Luba.step o s b).state (astep o a b).1 := by
  obtain ⟨ph, buf, ex, rc, rx, tx⟩ := s
  obtain ⟨acc, arx, atx⟩ := a
  obtain ⟨h1, h2, hinv, hph, ⟨tail, hbuf, hlen⟩, hrc, hex⟩ := h
  simp only at h1 h2 hinv hph hbuf hlen hrc hex
  subst h1 h2 hbuf hph hrc
  obtain ⟨t0, tail', rfl⟩ := ainv_room hinv hlen
  simp only [List.length_cons] at hlen
  have hinv0 := hinv
  rcases hinv with hacc | hacc | ⟨c, hacc⟩ | ⟨c, n, p, hacc, hn1, hn20, hpn⟩ <;> subst hacc
  · by_cases hb : b = 0x59
    · subst hb
      exact ⟨rfl, rfl, rel_grow hinv0 rfl hlen (by simp)⟩
    · simp [Luba.step, astep, grows, phaseOf, bufSet, hb]
      exact rel_mk (acc := []) (tail := b :: tail') hinv0 hlen (by simp)
  · exact ⟨rfl, rfl, rel_grow hinv0 rfl hlen (by simp)⟩
  · by_cases hb : 0 < b ∧ b ≤ 20
    · have := rel_grow (ex := b) (rx := rx) (tx := tx) hinv0 (b := b) (by simp [grows, hb]) hlen (fun _ => rfl)
      rw [show phaseOf ([0x59, c] ++ [b]) = .loopRead from if_pos hb.1] at this
      simp [Luba.step, astep, grows, phaseOf, bufSet, hb, luba_MAX_LEN]
      exact this
    · simp [Luba.step, astep, grows, phaseOf, bufSet, hb, luba_MAX_LEN, Luba.State.reset]
      exact rel_reset rx tx
  · have hex' : ex = n := by simpa using hex
    subst hex'
    have hbs : ∀ i, i = p.length + 3 → bufSet (89 :: c :: ex :: p ++ t0 :: tail') i b
        = some (89 :: c :: ex :: p ++ [b] ++ tail') := by
      intro i hi; subst hi; exact bufSet_append (89 :: c :: ex :: p) tail' t0 b
    have hrc : (89 :: c :: ex :: p).length - 3 = p.length := by simp
    by_cases hlt : p.length < ex
    · have hg : grows (89 :: c :: ex :: p) b = true := by simp [grows, hlt]
      have := rel_grow (ex := ex) (rx := rx) (tx := tx) hinv0 hg hlen (fun _ => rfl)
      have hph : phaseOf (89 :: c :: ex :: p ++ [b]) =
          if (p.length + 1 == ex) = true then .waitChecksum else .loopRead := by
        simp only [phaseOf, List.cons_append, List.length_append, List.length_cons, List.length_nil, beq_iff_eq]
        by_cases he : p.length + 1 = ex
        · simp [he]
        · simp [he]; omega
      rw [hph] at this
      simp only [Luba.step, astep, hg, show phaseOf (89 :: c :: ex :: p) = .loopRead from if_pos hlt, hrc,
        hbs _ (Nat.add_comm 2 _), if_true]
      exact ⟨trivial, trivial, by simpa using this⟩
    · have hg : grows (89 :: c :: ex :: p) b = false := by simp [grows, hlt]
      have htake : (89 :: c :: ex :: p ++ [b] ++ tail').take (p.length + 4) = 89 :: c :: ex :: p ++ [b] :=
        List.take_left' (by simp)
      have hdl : (List.drop 1 (89 :: c :: ex :: p ++ [b])).dropLast = c :: ex :: p := by simp [List.dropLast]
      simp only [Luba.step, astep, hg, show phaseOf (89 :: c :: ex :: p) = .waitChecksum from if_neg hlt, hrc,
        hbs _ rfl, htake, hdl]
      by_cases hx : xorAll (c :: ex :: p) = b
      · by_cases hk : Luba.knownCmd c = true
        · cases hd : Luba.dispatch o rx tx (89 :: c :: ex :: p ++ [b]) with
          | error e =>
            have := rel_mk (tail := b :: tail') (ex := ex) (rx := rx) (tx := tx) hinv0 hlen (fun _ => rfl)
            simpa [hx, hk, phaseOf, hlt] using this
          | ok r => simpa [hx, hk, Luba.State.reset] using rel_reset r.1 r.2.1
        · simpa [hx, hk, Luba.State.reset] using rel_reset rx tx
      · simpa [hx, Luba.State.reset] using rel_reset rx tx

/-- `data_received` keeps the state related to some frame in progress, and what it raises is a handler's exception -/
theorem run_rel (o : Oracle) (bytes : List Nat) : ∀ (s : Luba.State) (a : AState), Rel s a →
    (∃ a', Rel (Luba.runChunk o s bytes).state a') ∧
    ∀ e, (Luba.runChunk o s bytes).err = some e → ∃ x, e = .handler x := by
  induction bytes with
  | nil => intro s a h; exact ⟨⟨a, h⟩, fun e he => by cases he⟩
  | cons b bs ih =>
    intro s a h
    obtain ⟨_, h2, h3⟩ := sim o s a b h
    simp only [Luba.runChunk]
    cases he : (Luba.step o s b).err with
    | some e => exact ⟨⟨_, h3⟩, fun e' he' => astep_err o a b e' (by rw [← h2, he]; exact he')⟩
    | none => exact ih _ _ h3

/-- the same for any sequence of reads, which goes on after an exception -/
theorem chunks_rel (o : Oracle) (chunks : List (List Nat)) : ∀ (s : Luba.State) (a : AState), Rel s a →
    (∃ a', Rel (Luba.runChunks o s chunks).1 a') ∧
    ∀ e ∈ (Luba.runChunks o s chunks).2.2, ∃ x, e = RxErr.handler x := by
  induction chunks with
  | nil => intro s a h; exact ⟨⟨a, h⟩, fun e he => by cases he⟩
  | cons c cs ih =>
    intro s a h
    obtain ⟨⟨a', h'⟩, herr⟩ := run_rel o c s a h
    obtain ⟨i1, i2⟩ := ih _ a' h'
    refine ⟨i1, fun e he => ?_⟩
    simp only [Luba.runChunks, List.mem_append] at he
    rcases he with he | he
    · cases hce : (Luba.runChunk o s c).err with
      | none => simp [hce] at he
      | some e' =>
        simp only [hce, List.mem_singleton] at he
        exact herr e (he ▸ hce)
    · exact i2 e he

theorem deframe_skip (o : Oracle) (ctx : Ctx) (b : Nat) (rest : List Nat) (hb : b ≠ 0x59) :
    lubaDeframe o ctx (b :: rest) = lubaDeframe o ctx rest := by
  rw [lubaDeframe.eq_def]; simp [hb]

theorem deframe_badlen (o : Oracle) (ctx : Ctx) (c n : Nat) (rest : List Nat) (hn : ¬ (1 ≤ n ∧ n ≤ lubaMaxPayload)) :
    lubaDeframe o ctx (0x59 :: c :: n :: rest) = lubaDeframe o ctx rest := by
  rw [lubaDeframe.eq_def]; simp [hn]

theorem deframe_frame (o : Oracle) (ctx : Ctx) (c n b : Nat) (p rest : List Nat)
    (hn : 1 ≤ n ∧ n ≤ lubaMaxPayload) (hp : p.length = n) :
    lubaDeframe o ctx (0x59 :: c :: n :: (p ++ b :: rest)) =
      if xorSum (c :: n :: p) = b then
        (lubaMeaning o ctx c p).2 ++ lubaDeframe o (lubaMeaning o ctx c p).1 rest
      else lubaDeframe o ctx rest := by
  rw [lubaDeframe.eq_def]
  have h1 : ¬ (p.length + (rest.length + 1) < n + 1) := by omega
  have h2 : (p ++ b :: rest).take n = p := by rw [← hp]; exact List.take_left' rfl
  have h3 : (p ++ b :: rest)[n]?.getD 0 = b := by
    rw [← hp]; simp
  have h4 : (p ++ b :: rest).drop (n + 1) = rest := by
    rw [← hp]
    have : p ++ b :: rest = (p ++ [b]) ++ rest := by simp
    rw [this]; exact List.drop_left' (by simp)
  simp [hn, h1, h2, h3, h4]

theorem deframe_nil (o : Oracle) (ctx : Ctx) : lubaDeframe o ctx [] = [] := by rw [lubaDeframe.eq_def]

/-- a frame with the right checksum yields its meaning, and deframing goes on behind it in the context it leaves -/
theorem deframe_good_frame (o : Oracle) (ctx : Ctx) (c n : Nat) (p rest : List Nat)
    (hn : 1 ≤ n ∧ n ≤ lubaMaxPayload) (hp : p.length = n) :
    lubaDeframe o ctx (0x59 :: c :: n :: (p ++ xorSum (c :: n :: p) :: rest)) =
      (lubaMeaning o ctx c p).2 ++ lubaDeframe o (lubaMeaning o ctx c p).1 rest := by
  rw [deframe_frame o ctx c n _ p rest hn hp, if_pos rfl]

theorem deframe_prefix (o : Oracle) (ctx : Ctx) (acc : List Nat) (h : AInv acc) : lubaDeframe o ctx acc = [] := by
  rcases h with h | h | ⟨c, h⟩ | ⟨c, n, p, h, hn1, hn20, hp⟩
  · subst h; rw [lubaDeframe.eq_def]
  · subst h; rw [lubaDeframe.eq_def]; simp
  · subst h; rw [lubaDeframe.eq_def]; simp
  · subst h; rw [lubaDeframe.eq_def]; simp [lubaMaxPayload, hn1, hn20]; omega

theorem luba_status_facts : ∀ st, st < 256 → ((st &&& 192) >>> 6 = st / 64 ∧ st &&& 63 = st % 64) := by
  decide +kernel

theorem dtAfter_long (a b c : Nat) (l : List Nat) : dtAfter (a :: b :: c :: l) = 0 := by
  unfold dtAfter; split
  · rename_i h; simp at h
  · rfl

theorem nextDt_general (fr : List Nat) (hb : ∀ x ∈ fr, x < 256) :
    nextDt (8 * fr.length) (beValue fr) = dtAfter fr := by
  match fr, hb with
  | [], _ => simp [nextDt, isEDT, dtAfter]
  | [a], _ => simp [nextDt, isEDT, dtAfter]
  | [a, x], hb => exact nextDt_two a x (hb x (by simp))
  | a :: b :: c :: l, _ =>
    rw [dtAfter_long]
    apply nextDt_ne16
    simp only [List.length_cons]; omega

theorem event_meaning (o : Oracle) (rx tx : Nat) (p : List Nat) (hb : ∀ x ∈ p, x < 256)
    (hwf : Out.malformed ∉ (lubaEvent o ⟨rx, tx⟩ p).2) :
    ∃ items, Luba.event o rx tx p =
        .ok ((lubaEvent o ⟨rx, tx⟩ p).1.rxdt, (lubaEvent o ⟨rx, tx⟩ p).1.txdt, items) ∧
      (lubaEvent o ⟨rx, tx⟩ p).2 = items.map .item := by
  match p, hb, hwf with
  | [], _, hwf => simp [lubaEvent] at hwf
  | [_], _, hwf => simp [lubaEvent] at hwf
  | [_, _], _, hwf => simp [lubaEvent] at hwf
  | [_, _, _], _, hwf => simp [lubaEvent] at hwf
  | t1 :: t2 :: ln :: st :: rest, hb, hwf =>
    have hst : st < 256 := hb st (by simp)
    have hrest : ∀ x ∈ rest, x < 256 := fun x hx => hb x (by simp [hx])
    obtain ⟨f1, f2⟩ := luba_status_facts st hst
    simp only [lubaEvent] at hwf ⊢
    simp only [Luba.event, List.length_cons, List.getD_cons_succ, List.getD_cons_zero, luba_EVENT_TYPE_MASK,
      luba_EVENT_INFO_MASK, f1, f2, List.drop_succ_cons, List.drop_zero]
    by_cases h0 : st / 64 = 0
    · simp only [h0, if_true] at hwf ⊢
      match rest, hrest, hwf with
      | [], _, hwf => simp at hwf
      | id :: fr, hfr, hwf =>
        have hfr' : ∀ x ∈ fr, x < 256 := fun x hx => hfr x (by simp [hx])
        have hdt := nextDt_general fr hfr'
        simp only [List.length_cons, List.drop_succ_cons, List.drop_zero, ofBytesBE_eq, hdt]
        have l4 : ¬ (fr.length + 1 + 1 + 1 + 1 + 1 < 4) := by omega
        have l5 : ¬ (fr.length + 1 + 1 + 1 + 1 + 1 < 5) := by omega
        by_cases hok : fr ≠ [] ∧ o.tx (8 * fr.length) (beValue fr) tx = true
        · have hpos : 0 < fr.length := List.length_pos_iff.mpr hok.1
          refine ⟨[Item.txconf id (some ⟨8 * fr.length, beValue fr, tx⟩)], ?_, ?_⟩ <;>
            simp [hok, hpos, l4, l5]
        · have hok' : (decide (0 < fr.length) && o.tx (8 * fr.length) (beValue fr) tx) = false := by
            by_cases hnil : fr = []
            · simp [hnil]
            · have : ¬ (o.tx (8 * fr.length) (beValue fr) tx = true) := fun h => hok ⟨hnil, h⟩
              simp [this]
          refine ⟨[Item.txconf id none], ?_, ?_⟩ <;> simp [hok, hok', l4, l5]
    · simp only [h0, if_false] at hwf ⊢
      have l4 : ¬ (rest.length + 1 + 1 + 1 + 1 < 4) := by omega
      simp only [l4, if_false]
      have hne : (st / 64 == 0) = false := by simp [h0]
      simp only [hne]
      by_cases h2 : st / 64 = 2
      · simp only [h2, if_true] at hwf ⊢
        by_cases hin : 1 ≤ st % 64 ∧ st % 64 ≤ 32
        · simp only [hin, and_self, if_true] at hwf ⊢
          match rest, hrest with
          | [], _ => exact ⟨[], by simp, by simp⟩
          | [v], _ => exact ⟨[.raw v], by simp, by simp⟩
          | a :: b :: l, hr =>
            have hdt := nextDt_general (a :: b :: l) hr
            simp only [ofBytesBE_eq, hdt]
            by_cases hok : o.rx (8 * (l.length + 1 + 1)) (beValue (a :: b :: l)) rx = true
            · exact ⟨[.observed ⟨8 * (a :: b :: l).length, beValue (a :: b :: l), rx⟩], by simp [hok], by simp [hok]⟩
            · exact ⟨[], by simp [hok], by simp [hok]⟩
        · exact ⟨[], by simp [hin], by simp [hin]⟩
      · exact ⟨[], by simp [h2], by simp [h2]⟩

theorem knownCmd_handled : Luba.knownCmd 0x31 = true ∧ Luba.knownCmd 0x33 = true ∧
    Luba.knownCmd 0x21 = true ∧ Luba.knownCmd 0x2B = true := by decide

theorem meaning_unknown (o : Oracle) (ctx : Ctx) (c : Nat) (p : List Nat) (h : Luba.knownCmd c = false) :
    lubaMeaning o ctx c p = (ctx, []) := by
  obtain ⟨k1, k2, k3, k4⟩ := knownCmd_handled
  have n1 : c ≠ 0x31 := fun e => by rw [e, k1] at h; cases h
  have n2 : c ≠ 0x33 := fun e => by rw [e, k2] at h; cases h
  have n3 : c ≠ 0x21 := fun e => by rw [e, k3] at h; cases h
  have n4 : c ≠ 0x2B := fun e => by rw [e, k4] at h; cases h
  simp [lubaMeaning, n1, n2, n3, n4]

theorem slice_append (p t : List Nat) (i k : Nat) (h : i + k ≤ p.length) :
    ((p ++ t).drop i).take k = (p.drop i).take k := by
  rw [List.drop_append_of_le_length (by omega), List.take_append_of_le_length (by simp; omega)]

theorem dispatch_meaning (o : Oracle) (rx tx c n b : Nat) (p : List Nat) (hb : ∀ x ∈ p, x < 256)
    (hp : p.length = n) (hwf : Out.malformed ∉ (lubaMeaning o ⟨rx, tx⟩ c p).2) :
    ∃ items, Luba.dispatch o rx tx (0x59 :: c :: n :: (p ++ [b])) =
        .ok ((lubaMeaning o ⟨rx, tx⟩ c p).1.rxdt, (lubaMeaning o ⟨rx, tx⟩ c p).1.txdt, items) ∧
      (lubaMeaning o ⟨rx, tx⟩ c p).2 = items.map .item := by
  have hpl : (List.drop 3 (0x59 :: c :: n :: (p ++ [b]))).dropLast = p := by simp
  simp only [Luba.dispatch, List.getD_cons_succ, List.getD_cons_zero, hpl, lubaCmd_EVENT_MESSAGE,
    lubaCmd_ADD_DALI_FRAME_TO_TX_RSP, lubaCmd_QUERY_DEVICE_INFO_RSP, lubaCmd_READ_WRITE_SETTINGS_RSP]
  unfold lubaMeaning at hwf ⊢
  by_cases h1 : c = 0x31
  · simp only [h1, if_true] at hwf ⊢
    simpa using event_meaning o rx tx p hb hwf
  · by_cases h2 : c = 0x33
    · subst h2
      simp only [Nat.reduceEqDiff, if_false, if_true] at hwf ⊢
      by_cases hl : p.length = 1 ∨ p.length = 2
      · refine ⟨[], ?_, by simp [hl]⟩
        rcases hl with hl | hl <;> simp [Luba.txResponse, ← hp, hl]
      · simp [hl] at hwf
    · by_cases h3 : c = 0x21
      · subst h3
        simp only [Nat.reduceEqDiff, if_false, if_true] at hwf ⊢
        by_cases hl : p.length = 20
        · -- the fields lie inside the payload: the checksum byte behind it is not looked at
          have e1 : (p ++ [b]).take 6 = p.take 6 := List.take_append_of_le_length (by omega)
          have e2 := slice_append p [b] 6 8 (by omega)
          have e3 := slice_append p [b] 16 4 (by omega)
          refine ⟨[.devinfo (beValue (p.take 6)) (beValue ((p.drop 6).take 8)) (p.getD 14 0) (p.getD 15 0)
            (beValue ((p.drop 16).take 4))], ?_, by simp [hl]⟩
          simp [Luba.deviceInfo, ← hp, hl, ofBytesBE_eq, e1, e2, e3]
        · simp [hl] at hwf
      · by_cases h4 : c = 0x2B
        · subst h4
          simp only [Nat.reduceEqDiff, if_false, if_true] at hwf ⊢
          match p, hwf with
          | [], hwf => simp at hwf
          | [_], hwf => simp at hwf
          | m :: f :: l, _ => exact ⟨[.settings m f], by simp [Luba.settingsRsp], by simp⟩
        · exact ⟨[], by simp [h1, h2, h3, h4], by simp [h1, h2, h3, h4]⟩

/-- from a state with the frame `a.acc` in progress, `data_received` delivers what the reference finds in
`a.acc ++ bytes`, by induction on `bytes`: each byte either extends the frame in progress or ends it, and where it
ends it the reference has an equation for the stream that starts with that frame -/
theorem run_deframe (o : Oracle) : ∀ (bytes : List Nat) (s : Luba.State) (a : AState), Rel s a →
    (∀ x ∈ a.acc ++ bytes, x < 256) →
    Out.malformed ∉ lubaDeframe o ⟨a.rxdt, a.txdt⟩ (a.acc ++ bytes) →
    (Luba.runChunk o s bytes).err = none ∧
    (Luba.runChunk o s bytes).items.map Out.item = lubaDeframe o ⟨a.rxdt, a.txdt⟩ (a.acc ++ bytes) := by
  intro bytes
  induction bytes with
  | nil =>
    intro s a h _ _
    simp [Luba.runChunk, deframe_prefix o _ a.acc h.2.2.1]
  | cons b bs ih =>
    intro s ⟨acc, rx, tx⟩ h hbd hwf
    have hinv : AInv acc := h.2.2.1
    simp only at hbd hwf ⊢
    have next : ∀ (a' : AState) (items : List Item), astep o ⟨acc, rx, tx⟩ b = (a', items, none) →
        (∀ x ∈ a'.acc ++ bs, x < 256) →
        lubaDeframe o ⟨rx, tx⟩ (acc ++ b :: bs) =
          items.map .item ++ lubaDeframe o ⟨a'.rxdt, a'.txdt⟩ (a'.acc ++ bs) →
        (Luba.runChunk o s (b :: bs)).err = none ∧
        (Luba.runChunk o s (b :: bs)).items.map Out.item = lubaDeframe o ⟨rx, tx⟩ (acc ++ b :: bs) := by
      intro a' items hs hbd' heq
      obtain ⟨h1, h2, h3⟩ := sim o s _ b h
      rw [hs] at h1 h2 h3
      obtain ⟨i1, i2⟩ := ih _ a' h3 hbd' (fun hm => hwf (heq ▸ List.mem_append_right _ hm))
      simp only [Luba.runChunk, h2, heq]
      exact ⟨i1, by simp [h1, i2]⟩
    have hbs : ∀ x ∈ [] ++ bs, x < 256 := fun x hx => hbd x (List.mem_append_right _ (List.mem_cons_of_mem _ hx))
    by_cases hg : grows acc b = true
    · exact next ⟨acc ++ [b], rx, tx⟩ [] (by simp [astep, hg]) (by simpa using hbd) (by simp)
    · rcases hinv with hacc | hacc | ⟨c, hacc⟩ | ⟨c, n, p, hacc, hn1, hn20, hpn⟩ <;> subst hacc <;>
        simp only [grows, decide_eq_true_eq, not_true_eq_false] at hg
      · exact next ⟨[], rx, tx⟩ [] (by simp [astep, grows, hg]) hbs (deframe_skip o ⟨rx, tx⟩ b bs hg)
      · exact next ⟨[], rx, tx⟩ [] (by simp [astep, grows, hg]) hbs (deframe_badlen o ⟨rx, tx⟩ c b bs
          (show ¬ (1 ≤ b ∧ b ≤ 20) by omega))
      · have hpe : p.length = n := by omega
        have hfr : lubaDeframe o ⟨rx, tx⟩ ((0x59 :: c :: n :: p) ++ b :: bs) = _ :=
          deframe_frame o ⟨rx, tx⟩ c n b p bs ⟨hn1, hn20⟩ hpe
        by_cases hx : xorSum (c :: n :: p) = b
        · simp only [hx, if_true] at hfr
          by_cases hk : Luba.knownCmd c = true
          · obtain ⟨items, hd1, hd2⟩ := dispatch_meaning o rx tx c n b p (fun x hx => hbd x (by simp [hx])) hpe
              (fun hm => hwf (hfr ▸ List.mem_append_left _ hm))
            exact next ⟨[], (lubaMeaning o ⟨rx, tx⟩ c p).1.rxdt, (lubaMeaning o ⟨rx, tx⟩ c p).1.txdt⟩ items
              (by simp [astep, grows, hg, xorAll_eq, hx, hk, hd1]) hbs (by rw [hfr, hd2]; rfl)
          · rw [meaning_unknown o ⟨rx, tx⟩ c p (by simpa using hk)] at hfr
            exact next ⟨[], rx, tx⟩ [] (by simp [astep, grows, hg, hk]) hbs hfr
        · simp only [hx, if_false] at hfr
          exact next ⟨[], rx, tx⟩ [] (by simp [astep, grows, hg, xorAll_eq, hx]) hbs hfr

/-- upper bound on the number of further bytes after which the frame in progress has ended: after 'Y' at most
the other `luba_MAX_LEN - 1` = 23 entries of the buffer, one less after the type byte, then what the length byte says -/
def remaining : List Nat → Nat
  | [] => 0
  | [_] => 23
  | [_, _] => 22
  | _ :: _ :: n :: p => (n - p.length) + 1

theorem remaining_le (acc : List Nat) (h : AInv acc) : remaining acc ≤ 23 := by
  rcases h with h | h | ⟨c, h⟩ | ⟨c, n, p, h, hn1, hn20, hp⟩ <;> subst h <;> simp [remaining] <;> omega

theorem remaining_zero (acc : List Nat) (h : remaining acc = 0) : acc = [] := by
  match acc, h with
  | [], _ => rfl
  | [_], h => simp [remaining] at h
  | [_, _], h => simp [remaining] at h
  | _ :: _ :: _ :: _, h => simp [remaining] at h

/-- a byte other than 'Y' that raises nothing brings the end of the frame in progress one byte nearer -/
theorem astep_remaining (o : Oracle) (a : AState) (b : Nat) (hinv : AInv a.acc) (hb : b ≠ 0x59)
    (he : (astep o a b).2.2 = none) : remaining (astep o a b).1.acc ≤ remaining a.acc - 1 := by
  obtain ⟨acc, rx, tx⟩ := a
  by_cases hg : grows acc b = true
  · simp only [astep, hg, if_true]
    rcases hinv with h | h | ⟨c, h⟩ | ⟨c, n, p, h, hn1, hn20, hp⟩ <;> subst h <;> simp [grows] at hg <;>
      simp [remaining] <;> omega
  · by_cases hc : 3 ≤ acc.length ∧ xorAll (acc.drop 1) = b ∧ Luba.knownCmd (acc.getD 1 0) = true
    · simp only [astep, hg, hc, and_self, if_true] at he ⊢
      cases hd : Luba.dispatch o rx tx (acc ++ [b]) with
      | error e => simp [hd] at he
      | ok r => simp [remaining]
    · simp only [astep, hg, hc, if_false]
      simp [remaining]

/-- bytes other than 'Y' that raise nothing: the frame in progress ends within `remaining` bytes -/
theorem run_idle (o : Oracle) : ∀ (idle : List Nat) (s : Luba.State) (a : AState), Rel s a →
    (∀ x ∈ idle, x ≠ 0x59) → (Luba.runChunk o s idle).err = none →
    ∃ a', Rel (Luba.runChunk o s idle).state a' ∧ remaining a'.acc ≤ remaining a.acc - idle.length := by
  intro idle
  induction idle with
  | nil => intro s a h _ _; exact ⟨a, h, by simp⟩
  | cons b bs ih =>
    intro s a h hid hne
    obtain ⟨_, h2, h3⟩ := sim o s a b h
    have hb : b ≠ 0x59 := hid b (by simp)
    simp only [Luba.runChunk] at hne ⊢
    cases hse : (Luba.step o s b).err with
    | some e => simp [hse] at hne
    | none =>
      simp only [hse] at hne ⊢
      rw [hse] at h2
      have hr := astep_remaining o a b h.2.2.1 hb h2.symm
      obtain ⟨a', hrel, hle⟩ := ih _ _ h3 (fun x hx => hid x (by simp [hx])) hne
      refine ⟨a', hrel, ?_⟩
      simp only [List.length_cons]
      omega

theorem xorSum_lt (l : List Nat) (h : ∀ x ∈ l, x < 256) : xorSum l < 256 := by
  induction l with
  | nil => simp [xorSum]
  | cons x xs ih =>
    have hx : x < 2 ^ 8 := h x (by simp)
    have hxs : xorSum xs < 2 ^ 8 := ih (fun y hy => h y (by simp [hy]))
    exact Nat.xor_lt_two_pow hx hxs

theorem frame_lt (c n : Nat) (p : List Nat) (hb : ∀ x ∈ c :: n :: p, x < 256) :
    ∀ x ∈ 0x59 :: c :: n :: (p ++ [xorSum (c :: n :: p)]), x < 256 := by
  intro x hx
  simp only [List.mem_cons, List.mem_append, List.mem_nil_iff, or_false] at hx
  rcases hx with rfl | rfl | rfl | hx | rfl
  · decide
  · exact hb _ (by simp)
  · exact hb _ (by simp)
  · exact hb x (by simp [hx])
  · exact xorSum_lt _ hb

theorem luba_runChunk_append (o : Oracle) (s : Luba.State) (a b : List Nat) :
    Luba.runChunk o s (a ++ b) =
      match (Luba.runChunk o s a).err with
      | some _ => Luba.runChunk o s a
      | none =>
        ⟨(Luba.runChunk o (Luba.runChunk o s a).state b).state,
         (Luba.runChunk o s a).items ++ (Luba.runChunk o (Luba.runChunk o s a).state b).items,
         (Luba.runChunk o (Luba.runChunk o s a).state b).err⟩ := by
  induction a generalizing s with
  | nil => simp [Luba.runChunk]
  | cons x xs ih =>
    simp only [Luba.runChunk, List.cons_append]
    cases he : (Luba.step o s x).err with
    | some e => rfl
    | none =>
      simp only [ih]
      split <;> simp [*]

theorem luba_runChunks_flatten (o : Oracle) (chunks : List (List Nat)) : ∀ (s : Luba.State),
    (Luba.runChunk o s chunks.flatten).err = none →
    Luba.runChunks o s chunks =
      ((Luba.runChunk o s chunks.flatten).state, (Luba.runChunk o s chunks.flatten).items, []) := by
  induction chunks with
  | nil => intro s _; simp [Luba.runChunks, Luba.runChunk]
  | cons c cs ih =>
    intro s h
    simp only [List.flatten_cons, luba_runChunk_append] at h ⊢
    cases hc : (Luba.runChunk o s c).err with
    | some e => simp [hc] at h
    | none =>
      simp only [hc] at h ⊢
      simp [Luba.runChunks, ih _ h, hc]

end DaliVerif.Proofs.SerialRx
