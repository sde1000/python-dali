import DaliVerif.Proofs.GearSeqC07Round
/-!
# C07: `Commissioning` as a whole on the specification bus

`outer_bus` (the loop over RANDOMISE rounds, one induction: `Rounds`), `commissioning_run` (what is sent before
the body — clearing all addresses or the discovery sweep — leaves every unit's view alone or clears its address),
`commissioning_post` (the clauses of the property for the whole sequence: `CommPost`, and `HoldsOne` for runs of a
single round), the unit-by-unit clauses (`commissioning_others`, `commissioning_dry`), and the lemmas about the
Boolean tests of the clause checker `commCheck` with which `Props/C07.lean` assembles `commissioning_spec`.
-/
namespace DaliVerif.GearSeq
set_option linter.unusedSimpArgs false

def EndsT {σ α : Type} (o : Out σ α) : Prop := ∀ a, o.res = .ret a → ∃ t, o.trace = t ++ [Cmd.terminate]

theorem endsT_send {σ α : Type} (step : σ → Cmd → Resp × σ) (c : Cmd) (k : Resp → Prog α) (s : σ)
    (h : EndsT ((k (step s c).1).run step (step s c).2)) : EndsT ((Prog.send c k).run step s) := by
  intro a ha
  simp only [Prog.run] at ha ⊢
  obtain ⟨t, ht⟩ := h a ha
  exact ⟨c :: t, by rw [ht]; rfl⟩

/-- the observation `o`, made after the commands `t` were sent -/
def Out.pre {σ α : Type} (t : List Cmd) (o : Out σ α) : Out σ α := ⟨o.res, o.st, t ++ o.trace⟩

/-- the local `body` of the model's `commissioning`, as a definition of its own (`commissioning_eq`) -/
def commBody (rounds : Nat) (re dry : Bool) (av : List Nat) : Prog (List (Nat × Nat)) :=
  .tell .terminate <| .tell (.initialise (if re then 0x00 else 0xFF)) <|
    (outer dry rounds av []).bind fun handed => .tell .terminate <| .note .progress <| .done handed

theorem commissioning_eq (rounds : Nat) (av : Option (List Nat)) (re dry : Bool) :
    commissioning rounds av re dry =
      if re then
        (if dry then .note .progress (commBody rounds re dry (av.getD (List.range 64)))
         else .tell (.dtr0 255) (.tell (.setShortAddress .broadcast) (commBody rounds re dry (av.getD (List.range 64)))))
      else discover (List.range 64) (av.getD (List.range 64)) (fun av' => .note .progress (commBody rounds re dry av')) := by
  cases re <;> cases dry <;> rfl

theorem endsT_body {σ : Type} (step : σ → Cmd → Resp × σ) (rounds : Nat) (re dry : Bool) (av : List Nat) (s : σ) :
    EndsT ((commBody rounds re dry av).run step s) := by
  apply endsT_send
  apply endsT_send
  intro a ha
  rw [run_bind] at ha ⊢
  cases hr : ((outer dry rounds av []).run step _).res with
  | ret h => simp only [hr, Prog.tell, Prog.run]; exact ⟨_, rfl⟩
  | raised e => rw [hr] at ha; cases ha
  | outOfFuel => rw [hr] at ha; cases ha

theorem endsT_discover {σ α : Type} (step : σ → Cmd → Resp × σ) (k : List Nat → Prog α)
    (hk : ∀ av s, EndsT ((k av).run step s)) :
    ∀ (as avail : List Nat) (s : σ), EndsT ((discover as avail k).run step s) := by
  intro as
  induction as with
  | nil => intro avail s; exact hk avail s
  | cons a as ih =>
    intro avail s
    simp only [discover]
    split
    · apply endsT_send; exact ih _ _
    · exact ih _ _

theorem commissioning_endsT {σ : Type} (step : σ → Cmd → Resp × σ) (rounds : Nat) (av : Option (List Nat))
    (re dry : Bool) (s : σ) : EndsT ((commissioning rounds av re dry).run step s) := by
  rw [commissioning_eq]
  split
  · split
    · exact endsT_body step rounds re dry _ s
    · exact endsT_send _ _ _ _ (endsT_send _ _ _ _ (endsT_body step rounds re dry _ _))
  · apply endsT_discover
    exact fun av' s' => endsT_body step rounds re dry av' s'

theorem all_disabled_of_endsT {α : Type} (p : Prog α) (b : Bus) (h : EndsT (runBus p b)) (a : α)
    (ha : (runBus p b).res = .ret a) : ∀ u ∈ (runBus p b).st, u.init = .disabled := by
  obtain ⟨t, ht⟩ := h a ha
  rw [runBus_st, ht]
  intro u hu
  simp only [List.mem_map] at hu
  obtain ⟨u0, _, rfl⟩ := hu
  simp only [List.foldl_append, List.foldl_cons, List.foldl_nil]
  simp [Gear.execSt, Cmd.devicetype, Gear.step]

theorem outer_only (dry : Bool) : ∀ (rounds : Nat) (avail : List Nat) (handed : List (Nat × Nat)),
    Only (IsOuter dry) (outer dry rounds avail handed) := by
  intro rounds
  induction rounds with
  | zero => intro _ _; exact Only.spin
  | succ rounds ih =>
    intro avail handed
    rw [outer]
    refine Only.tell (Or.inl rfl) (Only.note _ _ (Only.bind ((inner_only dry _ _ _ _).mono (fun c h => Or.inr h)) ?_))
    intro res
    match res with
    | .clash av' h' => exact ih _ _
    | .finished _ h' => exact Only.done _


/-! ## Termination: once the draws of some round are pairwise distinct, that round has no clash -/

/-- the random address a unit in initialisation mode holds after `k` more RANDOMISE commands
(a unit whose draw stream is exhausted keeps its random address) -/
def randAfter : Nat → Nat → List Nat → Nat
  | 0, r, _ => r
  | _ + 1, r, [] => r
  | k + 1, _, d :: ds => randAfter k d ds

/-- the random addresses, `k` RANDOMISE commands from now, of the units in initialisation mode -/
def sepList (k : Nat) (L : List V) : List Nat :=
  (L.filter (fun v => v.init != .disabled)).map (fun v => randAfter k v.random v.draws)

theorem filter_map_congr {α β γ : Type} (f : α → β) (p : β → Bool) (g : β → γ) (q : α → Bool) (h : α → γ)
    (L : List α) (hyp : ∀ x ∈ L, p (f x) = q x ∧ (q x = true → g (f x) = h x)) :
    ((L.map f).filter p).map g = (L.filter q).map h := by
  rw [List.filter_map, List.map_map, List.filter_congr (p := p ∘ f) fun x hx => (hyp x hx).1]
  exact List.map_congr_left fun x hx => (hyp x (List.mem_filter.mp hx).1).2 (List.mem_filter.mp hx).2

theorem randAfter_rand (k : Nat) (v : V) (h : v.init ≠ .disabled) :
    randAfter k (V.rand v).random (V.rand v).draws = randAfter (k + 1) v.random v.draws := by
  simp only [V.rand, h, if_false]
  cases hd : v.draws with
  | nil => cases k <;> simp [randAfter, hd]
  | cons d ds => simp [randAfter, hd]

theorem sepList_rand (k : Nat) (L : List V) : sepList k (L.map V.rand) = sepList (k + 1) L :=
  filter_map_congr V.rand _ _ _ _ L fun v _ =>
    ⟨by rw [(rand_fields v).1], fun hv => randAfter_rand k v (by simpa using hv)⟩

theorem enRV_sublist_sep (L : List V) : (enRV L).Sublist (sepList 0 L) := by
  induction L with
  | nil => exact List.Sublist.slnil
  | cons v L ih =>
    simp only [enRV, sepList, List.filterMap_cons, List.filter_cons, randAfter] at ih ⊢
    cases hi : v.init <;> simp [ih]

theorem sepList_view (k : Nat) (b : Bus) : sepList k (view b) =
    (b.filter fun u => u.init != .disabled).map fun u => randAfter k u.random u.draws :=
  filter_map_congr Gear.v _ _ _ _ b fun _ _ => ⟨rfl, fun _ => rfl⟩

theorem sepList_inner {α : Type} (dry : Bool) (k : Nat) (p : Prog α) (b : Bus)
    (h : ∀ c ∈ (runBus p b).trace, IsInner dry c) : sepList k (view (runBus p b).st) = sepList k (view b) := by
  rw [sepList_view, sepList_view, runBus_st]
  refine filter_map_congr _ _ _ _ _ b fun u _ => ?_
  obtain ⟨a1, a2, _, _, a5⟩ := fold_inner_fields dry _ h u
  exact ⟨Bool.eq_iff_iff.mpr (by simpa using not_congr a5), fun _ => by rw [a1, a2]⟩

theorem countRandomise_cons_r (t : List Cmd) : countRandomise (Cmd.randomise :: t) = countRandomise t + 1 := by
  simp [countRandomise, List.filter_cons]

/-- what the loop over at most `rounds` RANDOMISE rounds guarantees, started on bus `b`: a normal return means no
unit is left ENABLED, and after a single RANDOMISE an invariant `I` of the round's iterations has been carried from
its first loop head to the end; the budget `rounds` is not exhausted once the random
addresses of some round `k + 1 ≤ rounds` are pairwise distinct (that round has no clash: the units still ENABLED
then are among those in initialisation mode now, and the inner loop leaves random addresses alone) -/
structure Rounds (dry : Bool) (I : List V → Nat → List (Nat × Nat) → Prop) (rounds : Nat) (b : Bus)
    (avail : List Nat) (handed : List (Nat × Nat)) (o : Out Bus (List (Nat × Nat))) : Prop where
  pre : dry = false → progArgs o.trace <+: avail
  ret : ∀ h', o.res = .ret h' → enRV (view o.st) = [] ∧
    (handed.length = min (nWd (view b)) (handed.length + avail.length) →
      h'.length = min ((enRV (view b)).length + nWd (view b)) (handed.length + avail.length)) ∧
    (∃ av', h'.map Prod.snd ++ av' = handed.map Prod.snd ++ avail ∧
      (dry = false → progArgs o.trace ++ av' = avail)) ∧
    1 ≤ countRandomise o.trace ∧
    (countRandomise o.trace = 1 → dry = false → I ((view b).map V.rand) 0 handed → ∃ low, I (view o.st) low h')
  raise : ∀ e, o.res = .raised e → e = .ProgramShortAddressFailure ∧ dry = false ∧ ¬ NoFault (view b) ∧
    ∃ t a, o.trace = t ++ [Cmd.programShort a, Cmd.verifyShort a]
  len : o.trace.length ≤ countRandomise o.trace * (199 * ((enRV (view b)).length + nWd (view b)) + 199)
  term : ∀ k, k < rounds → (sepList (k + 1) (view b)).Nodup → o.res ≠ .outOfFuel

theorem outer_bus (dry : Bool) (I : List V → Nat → List (Nat × Nat) → Prop)
    (round : ∀ avail handed b, (∀ r ∈ enRV (view b), 0 ≤ r ∧ r ≤ HIGH) →
      Round dry I (199 * (enRV (view b)).length + 198) b 0 avail handed
        (runBus (inner dry (HIGH + 2) 0 avail handed) b)) :
    ∀ (rounds : Nat) (avail : List Nat) (handed : List (Nat × Nat)) (b : Bus),
    WF (view b) → Rounds dry I rounds b avail handed (runBus (outer dry rounds avail handed) b) := by
  intro rounds
  induction rounds with
  | zero =>
    intro avail handed b _
    exact ⟨fun _ => List.nil_prefix, fun _ h => (by cases h), fun _ h => (by cases h), Nat.zero_le _,
      fun k hk => (by omega)⟩
  | succ rounds ih =>
    intro avail handed b hwf
    rw [outer, runBus_tell, runBus_note]
    have hv1 := view_randomise b
    have hwf1 : WF (view (Bus.exec b .randomise).2) := by rw [hv1]; exact rand_WF _ hwf
    have P := round avail handed (Bus.exec b .randomise).2 (WF_enRV _ hwf1)
    have hcls := (inner_only dry (HIGH + 2) 0 avail handed).trace Bus.exec (Bus.exec b .randomise).2
    have hkeep := inner_keeps dry (inner dry (HIGH + 2) 0 avail handed) (Bus.exec b .randomise).2 hcls
    have hcr := countRandomise_inner dry _ hcls
    have hsi := fun j => sepList_inner dry j (inner dry (HIGH + 2) 0 avail handed) _ hcls
    have hnf : NoFault (view b) → NoFault (view (Bus.exec b .randomise).2) := fun nf => by
      rw [hv1]; exact NoFault_map _ _ (fun v => (rand_fields v).2.2) nf
    simp only [runBus] at P hkeep hcr hsi ⊢
    rw [run_bind]
    generalize ((inner dry (HIGH + 2) 0 avail handed).run Bus.exec (Bus.exec b .randomise).2) = o1
      at P hkeep hcr hsi ⊢
    obtain ⟨Pnofuel, Ppre, Plen, Praise, Pfin, Pnoclash, Pret⟩ := P
    rw [hv1, rand_enRV_len] at Plen
    simp only [hv1, rand_enRV_len, rand_nWd] at Pret
    -- for the outcomes in which the run ends with this round
    have hpre : dry = false → progArgs (Cmd.randomise :: o1.trace) <+: avail := Ppre
    have hlen : (Cmd.randomise :: o1.trace).length ≤ countRandomise (Cmd.randomise :: o1.trace) *
        (199 * ((enRV (view b)).length + nWd (view b)) + 199) := by
      rw [countRandomise_cons_r, hcr]
      simp only [List.length_cons]
      omega
    cases hres : o1.res with
    | ret r =>
      dsimp only
      match r, hres with
      | .clash av' h', hres =>
        obtain ⟨a1, a2, a3, a4, _⟩ := Pret av' h' (Or.inl hres)
        have e : h'.length + av'.length = handed.length + avail.length := by
          simpa only [List.length_append, List.length_map] using congrArg List.length a1
        obtain ⟨Qpre, Qret, Qraise, Qlen, Qterm⟩ := ih av' h' o1.st (hkeep.1 hwf1)
        simp only [runBus] at Qpre Qret Qraise Qlen Qterm
        rw [a3] at Qlen
        simp only [a3] at Qret
        dsimp only
        refine ⟨fun hd => ?_, fun h'' hr => ?_, fun e he => ?_, ?_, fun k hk hsep => ?_⟩
        · show progArgs (o1.trace ++ _) <+: avail
          rw [progArgs_append, ← a2 hd]
          exact (List.prefix_append_right_inj _).mpr (Qpre hd)
        · obtain ⟨b1, b3, ⟨av'', b4, b5⟩, b6, _⟩ := Qret h'' hr
          refine ⟨b1, fun hh => ?_, ⟨av'', b4.trans a1, fun hd => ?_⟩, ?_, fun h1 => ?_⟩
          · rw [← e]; exact b3 (a4 hh)
          · show progArgs (o1.trace ++ _) ++ av'' = avail
            rw [progArgs_append, List.append_assoc, b5 hd, a2 hd]
          · show 1 ≤ countRandomise (Cmd.randomise :: _)
            rw [countRandomise_cons_r]; omega
          · -- a second round was counted
            have : countRandomise (Cmd.randomise :: (o1.trace ++ _)) = 1 := h1
            rw [countRandomise_cons_r, countRandomise_append, hcr] at this
            omega
        · obtain ⟨c1, c2, c3, t, a, ht⟩ := Qraise e he
          exact ⟨c1, c2, fun nf => c3 (hkeep.2 (hnf nf)), Cmd.randomise :: (o1.trace ++ t), a,
            by show _ :: (_ ++ _) = _; rw [ht]; simp⟩
        · show (Cmd.randomise :: (o1.trace ++ _)).length ≤ countRandomise (Cmd.randomise :: (o1.trace ++ _)) * _
          rw [countRandomise_cons_r, countRandomise_append, hcr, Nat.zero_add, Nat.succ_mul]
          simp only [List.length_cons, List.length_append]
          omega
        · have hsep1 : (sepList k (view (Bus.exec b .randomise).2)).Nodup := by
            rw [hv1, sepList_rand]; exact hsep
          cases k with
          | zero => exact absurd hres (Pnoclash ((enRV_sublist_sep _).nodup hsep1) av' h')
          | succ k' => exact Qterm k' (by omega) (by rw [hsi]; exact hsep1)
      | .finished av' h', hres =>
        obtain ⟨a1, a2, a3, a4, a6⟩ := Pret av' h' (Or.inr hres)
        have e : h'.length + av'.length = handed.length + avail.length := by
          simpa only [List.length_append, List.length_map] using congrArg List.length a1
        have a5 := Pfin av' h' hres
        rw [a5] at a3
        simp only [List.length_nil, Nat.zero_add] at a3
        simp only [Prog.run, List.append_nil]
        refine ⟨hpre, fun h'' hr => ?_, fun _ h => (by cases h), hlen, fun _ _ _ h => (by cases h)⟩
        injection hr with hr
        subst hr
        refine ⟨a5, fun hh => ?_, ⟨av', a1, a2⟩, by rw [countRandomise_cons_r]; omega, fun _ hd hI => ?_⟩
        · have := a4 hh
          rw [a3, e] at this; exact this
        · exact a6 hd hI
    | raised e =>
      refine ⟨hpre, fun _ h => (by cases h), fun e' he' => ?_, hlen, fun _ _ _ h => (by cases h)⟩
      injection he' with he'
      subst he'
      obtain ⟨c1, c2, c3, t, a, ht⟩ := Praise e hres
      exact ⟨c1, c2, fun nf => c3 (hnf nf), Cmd.randomise :: t, a, by show _ :: _ = _; rw [ht]; rfl⟩
    | outOfFuel => exact absurd hres Pnofuel

def inUseL (L : List V) : List Nat := L.filterMap (·.short)

theorem inUseL_view (b : Bus) : inUseL (view b) = b.filterMap (·.short) := by
  simp only [inUseL, view, List.filterMap_map]; rfl

/-- what the `for a in range(64)` loop computes, given the answers of the bus -/
def discF (L : List V) : List Nat → List Nat → List Nat
  | [], av => av
  | a :: as, av =>
    if av.contains a then discF L as (if (inUseL L).contains a then av.erase a else av) else discF L as av

theorem present_isYes' (b : Bus) (a : Nat) :
    (Bus.exec b (.queryGearPresent (.short a))).1.isYes = (inUseL (view b)).contains a := by
  rw [Bool.eq_iff_iff, present_isYes]
  simp only [inUseL, List.contains_iff_mem, List.mem_filterMap]

theorem discover_bus {α : Type} (k : List Nat → Prog α) : ∀ (as av : List Nat) (b : Bus),
    ∃ (t : List Cmd), t.length ≤ as.length ∧ (∀ c ∈ t, IsQuiet c) ∧
      runBus (discover as av k) b =
        (runBus (k (discF (view b) as av)) (b.map fun u => t.foldl Gear.execSt u)).pre t := by
  intro as
  induction as with
  | nil => intro av b; exact ⟨[], Nat.le_refl _, by simp, by simp [discover, discF, Out.pre]⟩
  | cons a as ih =>
    intro av b
    simp only [discover, discF]
    by_cases hc : av.contains a = true
    · simp only [hc, if_true]
      rw [runBus_send, present_isYes']
      obtain ⟨t, h2, h3, h4⟩ := ih (if (inUseL (view b)).contains a then av.erase a else av)
        (Bus.exec b (.queryGearPresent (.short a))).2
      rw [view_exec_quiet b (.queryGearPresent (.short a)) trivial] at h4
      have hb : (Bus.exec b (.queryGearPresent (.short a))).2.map (fun u => t.foldl Gear.execSt u) =
          b.map (fun u => (Cmd.queryGearPresent (.short a) :: t).foldl Gear.execSt u) := by
        rw [Bus.exec_st, List.map_map]; rfl
      rw [hb] at h4
      refine ⟨Cmd.queryGearPresent (.short a) :: t, by simp only [List.length_cons]; omega, ?_, ?_⟩
      · intro c hc'
        simp only [List.mem_cons] at hc'
        rcases hc' with rfl | hc'
        · trivial
        · exact h3 c hc'
      · rw [h4]; rfl
    · simp only [hc, if_false, Bool.false_eq_true]
      obtain ⟨t, h2, h3, h4⟩ := ih av b
      exact ⟨t, by simp only [List.length_cons]; omega, h3, h4⟩

theorem discF_eq (L : List V) : ∀ (as av : List Nat), av.Nodup →
    discF L as av = av.filter (fun x => !(as.contains x && (inUseL L).contains x)) := by
  intro as
  induction as with
  | nil => intro av _; exact (List.filter_eq_self.mpr fun _ _ => by simp).symm
  | cons a as ih =>
    intro av hnd
    -- asking about an address that is not permitted changes nothing: `erase` has nothing to remove
    have step : discF L (a :: as) av = discF L as (if (inUseL L).contains a then av.erase a else av) := by
      rw [discF]
      split
      · rfl
      · rw [List.erase_of_not_mem (by simpa using ‹¬ av.contains a = true›), ite_self]
    rw [step]
    by_cases hu : (inUseL L).contains a = true
    · rw [if_pos hu, ih _ (hnd.erase a), hnd.erase_eq_filter, List.filter_filter]
      apply List.filter_congr
      intro x _
      by_cases hxa : x = a
      · subst hxa; simpa using hu
      · simp [hxa]
    · rw [if_neg hu, ih _ hnd]
      apply List.filter_congr
      intro x _
      by_cases hxa : x = a
      · subst hxa; simpa using fun _ => hu
      · simp [hxa]

theorem discF_range (L : List V) (av : List Nat) (hnd : av.Nodup) (h64 : ∀ a ∈ av, a < 64) :
    discF L (List.range 64) av = av.filter (fun a => !(inUseL L).contains a) := by
  rw [discF_eq L _ av hnd]
  apply List.filter_congr
  intro x hx
  have : (List.range 64).contains x = true := by
    rw [List.contains_iff_mem, List.mem_range]; exact h64 x hx
  simp only [this, Bool.true_and]


/-- the number of participants: all units when re-addressing, else the unaddressed ones -/
def parts (re : Bool) (L : List V) : Nat := L.countP (fun v => re || v.short.isNone)

def startV (re : Bool) (v : V) : V := V.ini (if re then 0x00 else 0xFF) (V.term v)

theorem start_init (re : Bool) (v : V) :
    (startV re v).init = if (re || v.short.isNone) = true then .enabled else .disabled := by
  cases re with
  | true => simp [startV, V.ini, V.term]
  | false =>
    cases h : v.short with
    | none => simp [startV, V.ini, V.term, h]
    | some a => simp [startV, V.ini, V.term, h]

theorem start_counts (re : Bool) (L : List V) :
    (enRV (L.map (startV re))).length = parts re L ∧ nWd (L.map (startV re)) = 0 := by
  induction L with
  | nil => exact ⟨rfl, rfl⟩
  | cons v L ih =>
    simp only [enRV, nWd, parts, List.map_cons, List.filterMap_cons, List.countP_cons, start_init] at ih ⊢
    cases (re || v.short.isNone) <;> simp_all

theorem start_fields (re : Bool) (v : V) : (startV re v).random = v.random ∧ (startV re v).draws = v.draws ∧
    (startV re v).noStore = v.noStore ∧ (startV re v).noVerify = v.noVerify ∧ (startV re v).short = v.short := by
  simp only [startV, V.ini, V.term]
  repeat' split
  all_goals exact ⟨rfl, rfl, rfl, rfl, rfl⟩

theorem view_start (re : Bool) (b : Bus) :
    view (Bus.exec (Bus.exec b .terminate).2 (.initialise (if re then 0x00 else 0xFF))).2 =
      (view b).map (startV re) := by
  rw [view_exec _ _ _ (fun u _ => v_ini u _), view_exec _ _ _ (fun u _ => v_term u), List.map_map]
  rfl

/-- the random addresses of the participants `k` RANDOMISE commands from now -/
def partRand (re : Bool) (k : Nat) (L : List V) : List Nat :=
  (L.filter (fun v => re || v.short.isNone)).map (fun v => randAfter k v.random v.draws)

theorem sepList_start (re : Bool) (k : Nat) (L : List V) : sepList k (L.map (startV re)) = partRand re k L :=
  filter_map_congr (startV re) _ _ _ _ L fun v _ =>
    ⟨by rw [start_init]; cases (re || v.short.isNone) <;> rfl,
     fun _ => by rw [(start_fields re v).1, (start_fields re v).2.1]⟩

theorem partRand_unaddr (k : Nat) (L : List V) : partRand true k (L.map V.unaddr) = partRand true k L := by
  simp [partRand, List.filter_map, V.unaddr, Function.comp_def]

theorem partRand_view (re : Bool) (k : Nat) (b : Bus) :
    partRand re k (view b) =
      (b.filter (fun u => re || u.short.isNone)).map (fun u => randAfter k u.random u.draws) := by
  simp [partRand, view, List.filter_map, Gear.v, Function.comp_def]

theorem WF_map (L : List V) (f : V → V) (h : ∀ v, (f v).random = v.random ∧ (f v).draws = v.draws) (hL : WF L) :
    WF (L.map f) := by
  intro v hv
  simp only [List.mem_map] at hv
  obtain ⟨w, hw, rfl⟩ := hv
  have := hL w hw
  simp only [WFv] at this ⊢
  rw [(h w).1, (h w).2]; exact this

/-- commands that never change a short address -/
def KeepsShort : Cmd → Prop
  | .searchH _ | .searchM _ | .searchL _ | .compare | .withdraw | .verifyShort _ | .randomise | .terminate
  | .initialise _ | .queryGearPresent _ | .dtr0 _ => True
  | _ => False

theorem keeps_short (u : Gear) (c : Cmd) (h : KeepsShort c) : (u.execSt c).short = u.short := by
  cases c <;> (try exact h.elim) <;>
    (simp only [Gear.execSt, Cmd.devicetype, if_true, Gear.step]
     first
      | rfl
      | (split <;> first | rfl | (split <;> rfl)))

theorem fold_keeps_short (t : List Cmd) (h : ∀ c ∈ t, KeepsShort c) (u : Gear) :
    (t.foldl Gear.execSt u).short = u.short :=
  foldl_execSt_inv (fun w => w.short = u.short) KeepsShort (fun w c hc hw => (keeps_short w c hc).trans hw) t h u rfl

/-- a unit that is not in initialisation mode ignores what the loops send: it stays so and keeps its short address -/
theorem disabled_stays (dry : Bool) (u : Gear) (c : Cmd) (h : IsOuter dry c ∨ c = .terminate)
    (hd : u.init = .disabled) : (u.execSt c).init = .disabled ∧ (u.execSt c).short = u.short := by
  rcases h with (rfl | h) | rfl
  · simp [Gear.execSt, Cmd.devicetype, Gear.step, hd, Gear.tick]
  · cases c <;> (try exact h.elim) <;>
      simp [Gear.execSt, Cmd.devicetype, Gear.step, hd, Gear.tick]
  · simp [Gear.execSt, Cmd.devicetype, Gear.step, hd, Gear.tick]

theorem fold_disabled_stays (dry : Bool) (t : List Cmd) (h : ∀ c ∈ t, IsOuter dry c ∨ c = .terminate) (u : Gear)
    (hd : u.init = .disabled) : (t.foldl Gear.execSt u).short = u.short :=
  (foldl_execSt_inv (fun w => w.init = .disabled ∧ w.short = u.short) (fun c => IsOuter dry c ∨ c = .terminate)
    (fun w c hc hw => ⟨(disabled_stays dry w c hc hw.1).1, (disabled_stays dry w c hc hw.1).2.trans hw.2⟩)
    t h u ⟨hd, rfl⟩).2

theorem outer_init (dry : Bool) (u : Gear) (c : Cmd) (h : IsOuter dry c) :
    (u.execSt c).init = .disabled ↔ u.init = .disabled := by
  rcases h with rfl | h
  · have e : (u.execSt .randomise).init = u.init := (congrArg V.init (v_rand u)).trans (rand_fields u.v).1
    rw [e]
  · exact (step_inner_fields dry u c h).2.2.2.2

theorem fold_outer_init (dry : Bool) (t : List Cmd) (h : ∀ c ∈ t, IsOuter dry c) (u : Gear) :
    (t.foldl Gear.execSt u).init = .disabled ↔ u.init = .disabled :=
  foldl_execSt_inv (fun w => w.init = .disabled ↔ u.init = .disabled) (IsOuter dry)
    (fun w c hc hw => (outer_init dry w c hc).trans hw) t h u Iff.rfl

theorem rand_start_init (re : Bool) (v : V) :
    (V.rand (startV re v)).init = (if (re || v.short.isNone) = true then .enabled else .disabled) ∧
    (V.rand (startV re v)).short = v.short := by
  rw [(rand_fields _).1, (rand_fields _).2.1, start_init, (start_fields re v).2.2.2.2]
  exact ⟨rfl, rfl⟩

theorem Hold_start (re : Bool) (L : List V) (hnf : NoFault L)
    (hpn : ∀ v ∈ L, (re || v.short.isNone) = true → v.short = none) :
    Hold ((L.map (startV re)).map V.rand) 0 [] := by
  have hmem : ∀ v' ∈ (L.map (startV re)).map V.rand, ∃ v ∈ L, v' = V.rand (startV re v) :=
    fun v' hv' => by simpa [eq_comm] using hv'
  have hnw : ∀ v' ∈ (L.map (startV re)).map V.rand, v'.init ≠ .withdrawn := by
    intro v' hv'
    obtain ⟨v, _, rfl⟩ := hmem v' hv'
    rw [(rand_start_init re v).1]
    split <;> decide
  refine ⟨fun v' hv' hi => absurd hi (hnw v' hv'), ?_, ?_, ?_⟩
  · intro v' hv' hi
    obtain ⟨v, hv, rfl⟩ := hmem v' hv'
    obtain ⟨r1, r2⟩ := rand_start_init re v
    rw [r2]
    apply hpn v hv
    rw [r1] at hi
    by_cases hp : (re || v.short.isNone) = true
    · exact hp
    · simp [hp] at hi
  · exact NoFault_map _ _ (fun v => (rand_fields v).2.2) (NoFault_map _ _
      (fun v => ⟨(start_fields re v).2.2.1, (start_fields re v).2.2.2.1⟩) hnf)
  · intro a
    simp only [List.map_nil, List.count_nil]
    unfold heldCount
    rw [List.countP_eq_zero]
    intro v' hv'
    have := hnw v' hv'
    simp [this]


theorem init_cases (i : InitState) (h1 : i ≠ .disabled) (h2 : i ≠ .enabled) : i = .withdrawn := by
  cases i <;> simp_all

/-- the clauses of the property about one run `o` of `Commissioning`, or of its body `commBody`, on a bus with
views `L`; `x` bounds the commands outside the RANDOMISE rounds -/
structure CommPost (rounds x : Nat) (o : Out Bus (List (Nat × Nat))) (L : List V) (re dry : Bool) (av : List Nat) :
    Prop where
  pre : progArgs o.trace <+: av
  dryP : dry = true → progArgs o.trace = []
  count : ∀ h, o.res = .ret h → dry = false → (progArgs o.trace).length = min (parts re L) av.length
  raise : ∀ e, o.res = .raised e → e = .ProgramShortAddressFailure ∧ dry = false ∧ ¬ NoFault L ∧
    ∃ t a, o.trace = t ++ [Cmd.programShort a, Cmd.verifyShort a]
  len : o.trace.length ≤ countRandomise o.trace * (199 * L.length + 199) + x
  term : ∀ k, k < rounds → (partRand re (k + 1) L).Nodup → o.res ≠ .outOfFuel

/-- the commands `t` sent before the body leave a bus with views `L1` -/
theorem CommPost.lift {rounds x : Nat} {o2 : Out Bus (List (Nat × Nat))} {L1 L : List V} {re dry : Bool}
    {av : List Nat} (B : CommPost rounds x o2 L1 re dry av) (t : List Cmd) (ht1 : progArgs t = [])
    (ht2 : countRandomise t = 0) (hp : parts re L1 = parts re L) (hn : NoFault L → NoFault L1)
    (hl : L1.length = L.length) (hr : ∀ k, partRand re k L1 = partRand re k L) :
    CommPost rounds (x + t.length) (o2.pre t) L re dry av := by
  have e1 : progArgs (t ++ o2.trace) = progArgs o2.trace := by rw [progArgs_append, ht1]; rfl
  have e2 : countRandomise (t ++ o2.trace) = countRandomise o2.trace := by
    rw [countRandomise_append, ht2, Nat.zero_add]
  refine ⟨?_, ?_, ?_, ?_, ?_, fun k hk hsep => B.term k hk (by rw [hr]; exact hsep)⟩
  · rw [Out.pre, e1]; exact B.pre
  · rw [Out.pre, e1]; exact B.dryP
  · rw [Out.pre, e1, ← hp]; exact B.count
  · intro e he
    obtain ⟨a1, a2, a3, t', a, ht⟩ := B.raise e he
    exact ⟨a1, a2, fun nf => a3 (hn nf), t ++ t', a, by rw [Out.pre, ht, List.append_assoc]⟩
  · have := B.len
    rw [Out.pre, e2, ← hl]
    simp only [List.length_append]
    omega

/-- the `holds` clause for a run `o` started on bus `b`, claimed when it returns after a single RANDOMISE round: for
every address `a`, as many participants end up holding `a` as times `a` was handed out -/
def HoldsOne (re : Bool) (b : Bus) (o : Out Bus (List (Nat × Nat))) : Prop :=
  ∀ h, o.res = .ret h → countRandomise o.trace = 1 → ∀ a,
    b.countP (fun u => (re || u.short.isNone) && ((o.trace.foldl Gear.execSt u).short == some a)) =
      (progArgs o.trace).count a

/-- a final TERMINATE, sent when `p` returns: what it leaves of the run of `p` -/
theorem runBus_then_terminate {α : Type} (p : Prog α) (b : Bus) :
    let o := runBus p b
    let o' := runBus (p.bind fun a => .tell .terminate <| .note .progress <| .done a) b
    progArgs o'.trace = progArgs o.trace ∧ countRandomise o'.trace = countRandomise o.trace ∧
    o'.trace.length ≤ o.trace.length + 1 ∧
    (∀ a, o'.res = .ret a → o.res = .ret a ∧ o'.trace = o.trace ++ [Cmd.terminate]) ∧
    (∀ e, o'.res = .raised e → o.res = .raised e ∧ o'.trace = o.trace) ∧
    (o'.res = .outOfFuel → o.res = .outOfFuel) := by
  simp only [runBus]
  rw [run_bind]
  cases (p.run Bus.exec b).res <;>
    simp [Prog.tell, Prog.run, progArgs, countRandomise, List.filter_append, List.filterMap_append]

/-- the body (TERMINATE, INITIALISE, the rounds, TERMINATE) started on bus `b1`; `holds` needs the participants
unaddressed to start with -/
theorem body_bus (rounds : Nat) (re dry : Bool) (av : List Nat) (b1 : Bus) (hwf : WF (view b1)) :
    CommPost rounds 3 (runBus (commBody rounds re dry av) b1) (view b1) re dry av ∧
    (dry = false → NoFault (view b1) → (∀ u ∈ b1, (re || u.short.isNone) = true → u.short = none) →
      HoldsOne re b1 (runBus (commBody rounds re dry av) b1)) := by
  unfold commBody
  rw [runBus_tell, runBus_tell]
  -- `b2`: the bus that TERMINATE and INITIALISE leave
  have hv2 := view_start re b1
  have hb2 : (Bus.exec (Bus.exec b1 .terminate).2 (.initialise (if re then 0x00 else 0xFF))).2 =
      b1.map fun u => (u.execSt .terminate).execSt (.initialise (if re then 0x00 else 0xFF)) := by
    simp only [Bus.exec_st, List.map_map]; rfl
  generalize (Bus.exec (Bus.exec b1 .terminate).2 (.initialise (if re then 0x00 else 0xFF))).2 = b2 at hv2 hb2 ⊢
  have hflags : NoFault (view b1) → NoFault ((view b1).map (startV re)) :=
    NoFault_map _ _ fun v => ⟨(start_fields re v).2.2.1, (start_fields re v).2.2.2.1⟩
  obtain ⟨c1, c2⟩ := start_counts re (view b1)
  -- `o2`: the rounds; they carry the invariant of a first round
  obtain ⟨Bpre, Bret, Braise, Blen, Bterm⟩ := outer_bus dry Hold
    (fun av hd b h => inner_bus dry _ (fun _ _ _ _ _ H F _ => H.step_prog F) (fun _ _ _ _ H F => H.step_empty F)
      (HIGH + 2) 0 av hd b (Nat.zero_le _) (by omega) h) rounds av [] b2
    (by rw [hv2]; exact WF_map _ _ (fun v => ⟨(start_fields re v).1, (start_fields re v).2.1⟩) hwf)
  have hcls : ∀ c ∈ (runBus (outer dry rounds av []) b2).trace, IsOuter dry c :=
    (outer_only dry rounds av []).trace Bus.exec b2
  have hst := runBus_st (outer dry rounds av []) b2
  -- `o3`: the rounds and the final TERMINATE
  obtain ⟨e1, e2, e3, k1, k2, k3⟩ := runBus_then_terminate (outer dry rounds av []) b2
  simp only [hv2, c1, c2, Nat.add_zero, sepList_start] at Bret Braise Blen Bterm
  generalize runBus (outer dry rounds av []) b2 = o2 at Bpre Bret Braise Blen Bterm hcls hst e1 e2 e3 k1 k2 k3
  generalize runBus ((outer dry rounds av []).bind fun handed =>
    Prog.tell .terminate (Prog.note .progress (Prog.done handed))) b2 = o3 at e1 e2 e3 k1 k2 k3 ⊢
  have hargs : dry = false → ∀ h, o2.res = .ret h → progArgs o2.trace = h.map Prod.snd := fun hd h hr => by
    obtain ⟨_, _, ⟨av', s1, s2⟩, _⟩ := Bret h hr
    exact List.append_cancel_right ((s2 hd).trans s1.symm)
  constructor
  · have hdry : dry = true → progArgs o2.trace = [] := by
      intro hd; subst hd
      exact progArgs_nil _ fun c hc a e => by subst e; rcases hcls _ hc with h | h <;> cases h
    have hpre : progArgs o2.trace <+: av := by
      cases dry with
      | true => rw [hdry rfl]; exact List.nil_prefix
      | false => exact Bpre rfl
    have hlen : o2.trace.length ≤ countRandomise o2.trace * (199 * (view b1).length + 199) :=
      Nat.le_trans Blen (Nat.mul_le_mul_left _ (by have : parts re (view b1) ≤ (view b1).length := List.countP_le_length; omega))
    refine CommPost.lift (x := 1) (o2 := o3) ?_ [.terminate, .initialise (if re then 0x00 else 0xFF)] rfl rfl rfl id rfl
      (fun _ => rfl)
    exact {
      pre := by rw [e1]; exact hpre
      dryP := by rw [e1]; exact hdry
      count := fun h hr hd => by
        have hr2 := (k1 h hr).1
        have := (Bret h hr2).2.1 (by simp)
        simp only [List.length_nil, Nat.zero_add] at this
        rw [e1, hargs hd h hr2, List.length_map, this]
      raise := fun e he => by
        obtain ⟨s1, s2, s3, s4⟩ := Braise e (k2 e he).1
        exact ⟨s1, s2, fun nf => s3 (hflags nf), (k2 e he).2 ▸ s4⟩
      len := by rw [e2]; omega
      term := fun k hk hsep h => Bterm k hk hsep (k3 h) }
  · intro hd hnf hpn h hr hc a
    subst hd hb2
    obtain ⟨hr2, ht⟩ := k1 h hr
    have hc2 : countRandomise o2.trace = 1 := by rw [← e2]; exact hc
    obtain ⟨hfin, _, _, _, qI⟩ := Bret h hr2
    obtain ⟨low', H⟩ := qI hc2 rfl (Hold_start re (view b1) hnf (List.forall_mem_map.mpr hpn))
    have hcnt := H.cnt a
    show b1.countP _ = (progArgs o3.trace).count a
    rw [e1, hargs rfl h hr2, ← hcnt, hst]
    unfold heldCount
    simp only [view, List.map_map, List.countP_map]
    apply List.countP_congr
    intro u hu
    rw [ht]
    simp only [Function.comp, List.foldl_cons, List.foldl_append, List.foldl_nil]
    -- the unit's own history: a participant is ENABLED after INITIALISE, hence WITHDRAWN at the end of the round
    have f5 := fold_outer_init false o2.trace hcls
      ((u.execSt .terminate).execSt (.initialise (if re then 0x00 else 0xFF)))
    have hi : ((u.execSt .terminate).execSt (.initialise (if re then 0x00 else 0xFF))).init =
        if (re || u.short.isNone) = true then .enabled else .disabled :=
      (congrArg V.init ((v_ini _ _).trans (congrArg _ (v_term u)))).trans (start_init re u.v)
    rw [hi] at f5
    have hmem : o2.trace.foldl Gear.execSt ((u.execSt .terminate).execSt (.initialise (if re then 0x00 else 0xFF)))
        ∈ o2.st := by rw [hst]; exact List.mem_map_of_mem (List.mem_map_of_mem hu)
    generalize o2.trace.foldl Gear.execSt ((u.execSt .terminate).execSt (.initialise (if re then 0x00 else 0xFF))) = Gu
      at f5 hmem ⊢
    rw [keeps_short Gu .terminate trivial]
    have hne : Gu.init ≠ .enabled := by
      intro he
      have : Gu.random ∈ enRV (view o2.st) := by
        simp only [enRV, view, List.filterMap_map, List.mem_filterMap, Function.comp]
        exact ⟨Gu, hmem, by simp [Gear.v, he]⟩
      rw [hfin] at this
      cases this
    by_cases hp : (re || u.short.isNone) = true
    · have hw := init_cases Gu.init (fun hd => by simp [hp] at f5; exact f5 hd) hne
      simp [hp, hw, Gear.v]
    · have hd : Gu.init = .disabled := f5.mpr (by simp [hp])
      have hp' : (re || u.short.isNone) = false := by rw [← Bool.not_eq_true]; exact hp
      simp [hp', hd, Gear.v]

theorem quiet_trace (t : List Cmd) (h : ∀ c ∈ t, IsQuiet c) : progArgs t = [] ∧ countRandomise t = 0 := by
  constructor
  · apply progArgs_nil
    intro c hc a e
    have := h c hc; rw [e] at this; exact this
  · exact countRandomise_zero t fun c hc e => by have := h c hc; rw [e] at this; exact this

/-- what `Commissioning` sends before its body (DTR0 255 + SET SHORT ADDRESS to clear all addresses, or the
QUERY CONTROL GEAR PRESENT sweep) leaves every unit's view alone, or clears every short address -/
theorem commissioning_run (rounds : Nat) (avail : Option (List Nat)) (re dry : Bool) (b : Bus) :
    ∃ t : List Cmd, t.length ≤ 64 ∧ progArgs t = [] ∧ countRandomise t = 0 ∧
      (∀ u : Gear, (t.foldl Gear.execSt u).v = if (re && !dry) = true then V.unaddr u.v else u.v) ∧
      runBus (commissioning rounds avail re dry) b =
        (runBus (commBody rounds re dry (if re then avail.getD (List.range 64) else
          discF (view b) (List.range 64) (avail.getD (List.range 64)))) (b.map fun u => t.foldl Gear.execSt u)).pre t := by
  rw [commissioning_eq]
  cases re with
  | true =>
    cases dry with
    | true => exact ⟨[], by simp, rfl, rfl, fun _ => rfl, by simp [runBus_note, Out.pre]⟩
    | false =>
      refine ⟨[.dtr0 255, .setShortAddress .broadcast], by simp, rfl, rfl, fun u => v_unaddr u, ?_⟩
      simp only [Bool.false_eq_true, if_false, if_true, runBus_tell, Bus.exec_st, List.map_map]
      rfl
  | false =>
    obtain ⟨t, h2, h3, h4⟩ := discover_bus (fun av' => Prog.note .progress (commBody rounds false dry av'))
      (List.range 64) (avail.getD (List.range 64)) b
    obtain ⟨q1, q2⟩ := quiet_trace t h3
    exact ⟨t, by simpa using h2, q1, q2, fun u => foldl_v_quiet t h3 u, by
      simp only [Bool.false_eq_true, if_false]; rw [h4]; rfl⟩

/-- **Commissioning on the specification bus** — any bus with 24-bit random addresses, any permitted list, both
modes, dry run or not, any number of rounds -/
theorem commissioning_post (rounds : Nat) (avail : Option (List Nat)) (re dry : Bool) (b : Bus)
    (hwf : WF (view b)) :
    CommPost rounds 67 (runBus (commissioning rounds avail re dry) b) (view b) re dry
      (if re then avail.getD (List.range 64) else
        discF (view b) (List.range 64) (avail.getD (List.range 64))) ∧
    (dry = false → NoFault (view b) → HoldsOne re b (runBus (commissioning rounds avail re dry) b)) := by
  obtain ⟨t, ht, hp, hc, hv, hrun⟩ := commissioning_run rounds avail re dry b
  rw [hrun]
  have hL : view (b.map fun u => t.foldl Gear.execSt u) =
      (view b).map fun v => if (re && !dry) = true then V.unaddr v else v := by
    simp only [view, List.map_map]
    exact List.map_congr_left fun u _ => hv u
  have hnf : NoFault (view b) → NoFault (view (b.map fun u => t.foldl Gear.execSt u)) := fun nf => by
    rw [hL]; exact NoFault_map _ _ (fun v => by split <;> exact ⟨rfl, rfl⟩) nf
  obtain ⟨B, H⟩ := body_bus rounds re dry (if re then avail.getD (List.range 64) else
      discF (view b) (List.range 64) (avail.getD (List.range 64))) _
    (by rw [hL]; exact WF_map _ _ (fun v => by split <;> exact ⟨rfl, rfl⟩) hwf)
  constructor
  · have L := B.lift (L := view b) t hp hc (by rw [hL]; cases re <;> simp [parts]) hnf (by simp [view])
      (fun k => by rw [hL]; cases re <;> cases dry <;> simp [partRand_unaddr])
    exact ⟨L.pre, L.dryP, L.count, L.raise, by have := L.len; omega, L.term⟩
  · intro hd nf h hr hc1 a
    subst hd
    dsimp only [Out.pre] at hr hc1 ⊢
    rw [countRandomise_append, hc, Nat.zero_add] at hc1
    -- what was sent before the body has cleared every short address when re-addressing, and none otherwise
    have hs : ∀ u, (t.foldl Gear.execSt u).short = if re = true then none else u.short := fun u => by
      have := congrArg V.short (hv u)
      cases re <;> simpa [Gear.v, V.unaddr] using this
    have B := H rfl (hnf nf) (fun u1 hu1 hp1 => by
      obtain ⟨u, _, rfl⟩ := List.mem_map.mp hu1
      rw [hs] at hp1 ⊢
      cases re with
      | true => rfl
      | false => simpa using hp1) h hr hc1 a
    rw [List.countP_map] at B
    rw [progArgs_append, hp, List.nil_append, ← B]
    apply List.countP_congr
    intro u _
    simp only [Function.comp, List.foldl_append, hs]
    cases re <;> simp

/-- `commissioning_post` with a duplicate-free permitted list within 0..63: the discovery sweep removes exactly the
addresses in use -/
theorem commissioning_bus (rounds : Nat) (avail : Option (List Nat)) (re dry : Bool) (b : Bus)
    (hwf : WF (view b)) (hnd : (avail.getD (List.range 64)).Nodup)
    (h64 : ∀ a ∈ avail.getD (List.range 64), a < 64) :
    CommPost rounds 67 (runBus (commissioning rounds avail re dry) b) (view b) re dry
      (if re then avail.getD (List.range 64) else
        (avail.getD (List.range 64)).filter (fun a => !(b.filterMap (·.short)).contains a)) := by
  have C := (commissioning_post rounds avail re dry b hwf).1
  rw [discF_range _ _ hnd h64, inUseL_view] at C
  exact C

/-- **termination** — if in some round `k + 1 ≤ rounds` the participants' random addresses are pairwise
distinct, the model's round budget `rounds` is not exhausted (the Python loop ends by then) -/
theorem commissioning_terminates (rounds : Nat) (avail : Option (List Nat)) (re dry : Bool) (b : Bus) (k : Nat)
    (hwf : WF (view b)) (hk : k < rounds) (hsep : (partRand re (k + 1) (view b)).Nodup) :
    (runBus (commissioning rounds avail re dry) b).res ≠ .outOfFuel :=
  (commissioning_post rounds avail re dry b hwf).1.term k hk hsep

theorem parts_view (re : Bool) (b : Bus) : parts re (view b) = (b.filter (fun u => re || u.short.isNone)).length := by
  rw [parts, view, List.countP_map, List.countP_eq_length_filter]; rfl

theorem noFault_view (b : Bus) : NoFault (view b) ↔ b.any (fun u => u.noStore || u.noVerify) = false := by
  simp [NoFault, view, Gear.v, List.any_eq_false]

theorem commBody_trace (rounds : Nat) (re dry : Bool) (av : List Nat) (b1 : Bus) :
    ∃ rest, (runBus (commBody rounds re dry av) b1).trace =
        Cmd.terminate :: Cmd.initialise (if re then 0x00 else 0xFF) :: rest ∧
      ∀ c ∈ rest, IsOuter dry c ∨ c = .terminate := by
  unfold commBody
  rw [runBus_tell, runBus_tell]
  refine ⟨_, rfl, ?_⟩
  apply Only.trace
  refine Only.bind ((outer_only dry rounds av []).mono (fun c h => Or.inl h)) ?_
  intro h
  exact Only.tell (Or.inr rfl) (Only.note _ _ (Only.done _))

/-- **others** — not re-addressing: every unit that had a short address keeps it (unit by unit) -/
theorem commissioning_others (rounds : Nat) (avail : Option (List Nat)) (dry : Bool) (b : Bus) :
    ∃ g : Gear → Gear, (runBus (commissioning rounds avail false dry) b).st = b.map g ∧
      ∀ u, u.short ≠ none → (g u).short = u.short := by
  refine ⟨fun u => (runBus (commissioning rounds avail false dry) b).trace.foldl Gear.execSt u, runBus_st _ b, ?_⟩
  intro u hu
  obtain ⟨t, _, _, _, hv, hrun⟩ := commissioning_run rounds avail false dry b
  obtain ⟨rest, hr, hcls⟩ := commBody_trace rounds false dry
    (discF (view b) (List.range 64) (avail.getD (List.range 64))) (b.map fun u => t.foldl Gear.execSt u)
  rw [hrun]
  simp only [Bool.false_eq_true, if_false, Out.pre] at hr ⊢
  rw [hr]
  simp only [List.foldl_append, List.foldl_cons]
  have hq : (t.foldl Gear.execSt u).v = u.v := hv u
  generalize t.foldl Gear.execSt u = u1 at hq ⊢
  have hs1 : u1.short = u.short := congrArg V.short hq
  have hne : u1.short ≠ none := by rw [hs1]; exact hu
  have e2 : ((u1.execSt .terminate).execSt (.initialise 0xFF)).init = .disabled ∧
      ((u1.execSt .terminate).execSt (.initialise 0xFF)).short = u1.short := by
    cases hsh : u1.short with
    | none => exact absurd hsh hne
    | some a => simp [Gear.execSt, Cmd.devicetype, Gear.step, Gear.tick, hsh]
  rw [fold_disabled_stays dry rest hcls _ e2.1, e2.2, hs1]


theorem keepsShort_of_outer_dry (c : Cmd) (h : IsOuter true c ∨ c = .terminate) : KeepsShort c := by
  rcases h with (rfl | h) | rfl
  · trivial
  · cases c <;> first | exact h.elim | trivial | cases h
  · trivial

/-- **dry** — a dry run changes no short address (unit by unit) -/
theorem commissioning_dry (rounds : Nat) (avail : Option (List Nat)) (re : Bool) (b : Bus) :
    ∃ g : Gear → Gear, (runBus (commissioning rounds avail re true) b).st = b.map g ∧
      ∀ u, (g u).short = u.short := by
  refine ⟨fun u => (runBus (commissioning rounds avail re true) b).trace.foldl Gear.execSt u, runBus_st _ b, ?_⟩
  intro u
  obtain ⟨t, _, _, _, hv, hrun⟩ := commissioning_run rounds avail re true b
  obtain ⟨rest, hr, hcls⟩ := commBody_trace rounds re true (if re then avail.getD (List.range 64) else
    discF (view b) (List.range 64) (avail.getD (List.range 64))) (b.map fun u => t.foldl Gear.execSt u)
  rw [hrun, Out.pre, hr]
  simp only [List.foldl_append, List.foldl_cons]
  rw [fold_keeps_short rest (fun c hc => keepsShort_of_outer_dry c (hcls c hc)), keeps_short _ (.initialise _) trivial,
    keeps_short _ .terminate trivial]
  exact (congrArg V.short (hv u)).trans (by simp [Gear.v])


/-- **holds** — a non-dry run on a fault-free bus that returns after a single RANDOMISE round: for every address
`a`, the number of participants that end up holding `a` is the number of times `a` was handed out -/
theorem commissioning_holds (rounds : Nat) (avail : Option (List Nat)) (re : Bool) (b : Bus)
    (hwf : WF (view b)) (hnf : NoFault (view b)) (h : List (Nat × Nat))
    (hr : (runBus (commissioning rounds avail re false) b).res = .ret h)
    (hc : countRandomise (runBus (commissioning rounds avail re false) b).trace = 1) (a : Nat) :
    b.countP (fun u => (re || u.short.isNone) &&
        (((runBus (commissioning rounds avail re false) b).trace.foldl Gear.execSt u).short == some a)) =
      (progArgs (runBus (commissioning rounds avail re false) b).trace).count a :=
  (commissioning_post rounds avail re false b hwf).2 rfl hnf h hr hc a

/-- forget the returned value (the ghost log), keep how the run ended -/
def Out.void {σ α : Type} (o : Out σ α) : Out σ Unit :=
  ⟨match o.res with | .ret _ => .ret () | .raised e => .raised e | .outOfFuel => .outOfFuel, o.st, o.trace⟩

/-- `commCheck` appends one such list per clause -/
theorem ite_nil (ok : Bool) (s : String) : (if ok = true then ([] : List String) else [s]) = [] ↔ ok = true := by
  cases ok <;> simp

theorem nodupB_iff (l : List Nat) : nodupB l = true ↔ l.Nodup := by
  induction l with
  | nil => simp [nodupB]
  | cons x xs ih => simp [nodupB, ih, List.nodup_cons]

theorem count_held (b : Bus) (g : Gear → Gear) (p : Gear → Bool) (a : Nat) :
    (((b.zip (b.map g)).filter (fun (u, _) => p u)).filterMap (fun (_, u') => u'.short)).count a =
      b.countP (fun u => p u && ((g u).short == some a)) := by
  rw [zip_map_self, List.filter_map, List.filterMap_map, List.count_eq_countP, List.countP_filterMap, List.countP_filter]
  apply List.countP_congr
  intro u _
  cases h : (g u).short <;> simp [h, and_comm]

/-- four units, one already addressed (0), two of the others clash on 1000 in the first round -/
def exBus : Bus :=
  [{ draws := [5] }, { draws := [1000, 777] }, { short := some 0, draws := [9] }, { draws := [1000, 778] }]

theorem exBus_wf : WF (view exBus) := by
  intro v hv
  simp [exBus, view, Gear.v] at hv
  rcases hv with rfl | rfl | rfl | rfl <;> simp [WFv, HIGH]

end DaliVerif.GearSeq

