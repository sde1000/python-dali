import DaliVerif.Model.FrameI
import DaliVerif.Proofs.Bits
/-!
# The integer-level forms of `Frame`'s operations equal the hand-written model

`FrameI.*` (over `Int`, in the translator's vocabulary) versus `Frame.*` (`Nat` fields, `PyVal` operands) for
EVERY frame and EVERY integer operand.  Together with `Tie/Frame.lean` this makes the model of `dali/frame.py` a
proved consequence of the translated source for integer operands; non-integer operands (the TypeError paths)
remain tied by the differential harness only.
-/
namespace DaliVerif.FrameI
open DaliVerif DaliVerif.Frame

def toFrame (p : Int × Int) : Frame := ⟨p.1.toNat, p.2.toNat⟩

theorem init_model (bits data : Int) :
    Frame.new (.int bits) (.int data) = (FrameI.init bits data).map toFrame := by
  simp only [Frame.new, FrameI.init, PyVal.asInt?]
  grind [Except.map, toFrame]

theorem readSlice_model (f : Frame) (a b : Int) :
    f.readSlice (.int a) (.int b) .none =
      match sliceCheck f.bits a b with
      | some e => .error e
      | none => .ok ((hi a b).toNat, (lo a b).toNat) := by
  have hmax : max a b = hi a b := by unfold hi; omega
  have hmin : min a b = lo a b := by unfold lo; omega
  simp only [Frame.readSlice, sliceCheck, PyVal.asInt?, hmax, hmin, Bool.or_eq_true,
    decide_eq_true_eq]
  grind

/-- a slice that passes the checks has natural-number ends, and so has its width -/
theorem sliceCheck_none {bits a b : Int} (h : sliceCheck bits a b = none) :
    ∃ h l : Nat, hi a b = h ∧ lo a b = l ∧ hi a b + 1 - lo a b = ((h + 1 - l : Nat) : Int) := by
  have : 0 ≤ lo a b ∧ lo a b ≤ hi a b := by
    unfold sliceCheck at h
    unfold lo hi at *
    grind
  exact ⟨(hi a b).toNat, (lo a b).toNat, by omega, by omega, by omega⟩

theorem one_eq : (1 : Int) = ((1 : Nat) : Int) := rfl

theorem getSlice_model (f : Frame) (a b : Int) :
    f.getItem (.slice (.int a) (.int b) .none) =
      (FrameI.getSlice f.bits f.data a b).map (fun i => Item.num i.toNat) := by
  simp only [Frame.getItem, FrameI.getSlice, readSlice_model]
  cases hc : sliceCheck (f.bits : Int) a b with
  | some e => rfl
  | none =>
    obtain ⟨h, l, hh, hl, hw⟩ := sliceCheck_none hc
    rw [hw, hl, hh]
    simp only [bind, Except.bind, pure, Except.pure, Except.map, one_eq, pyShr_ofNat, pyShl_ofNat,
      one_shiftLeft_sub_one, pyAnd_ofNat, Int.toNat_natCast, getSliceRaw, mask]

theorem getBit_model (f : Frame) (k : Int) :
    f.getItem (.idx (.int k)) = (FrameI.getBit f.bits f.data k).map Item.bit := by
  simp only [Frame.getItem, FrameI.getBit, PyVal.asInt?, Bool.or_eq_true, decide_eq_true_eq]
  split
  · rfl
  · obtain ⟨n, rfl⟩ := Int.eq_ofNat_of_zero_le (by omega : 0 ≤ k)
    simp only [Except.map, one_eq, pyShl_ofNat, pyAnd_ofNat, Int.toNat_natCast, getBitRaw]
    simp
    -- `==` on `Nat` is `decide (· = ·)` by definition
    rfl

theorem setSlice_model (f : Frame) (a b v : Int) :
    f.setItem (.slice (.int a) (.int b) .none) (.int v) =
      (FrameI.setSlice f.bits f.data a b v).map toFrame := by
  simp only [Frame.setItem, FrameI.setSlice, readSlice_model]
  cases hc : sliceCheck (f.bits : Int) a b with
  | some e => rfl
  | none =>
    obtain ⟨h, l, hh, hl, hw⟩ := sliceCheck_none hc
    rw [hw, hl, hh]
    simp only [bind, Except.bind, pure, Except.pure, PyVal.asInt?, Int.toNat_natCast, gt_iff_lt,
      Int.ofNat_lt]
    split
    · rfl
    split
    · rfl
    obtain ⟨w, rfl⟩ := Int.eq_ofNat_of_zero_le (by omega : 0 ≤ v)
    simp only [Except.map, toFrame, one_eq, pyShl_ofNat, one_shiftLeft_sub_one, pyXor_ofNat,
      pyAnd_ofNat, pyOr_ofNat, Int.toNat_natCast, setSliceRaw, mask]

theorem setBit_model (f : Frame) (k v : Int) :
    f.setItem (.idx (.int k)) (.int v) = (FrameI.setBit f.bits f.data k v).map toFrame := by
  simp only [Frame.setItem, FrameI.setBit, PyVal.asInt?, Bool.or_eq_true, decide_eq_true_eq]
  split
  · rfl
  · obtain ⟨n, rfl⟩ := Int.eq_ofNat_of_zero_le (by omega : 0 ≤ k)
    by_cases hv : v = 0 <;>
      simp only [hv, PyVal.truthy, Except.map, toFrame, one_eq, pyShl_ofNat, one_shiftLeft_sub_one,
        pyXor_ofNat, pyAnd_ofNat, pyOr_ofNat, Int.toNat_natCast, setBitRaw, mask] <;>
      simp [hv]

theorem containsTrue_model (f : Frame) :
    FrameI.containsTrue f.bits f.data = .ok (f.contains (.bool true)) := by
  simp [FrameI.containsTrue, Frame.contains, bne]
  rfl

theorem containsFalse_model (f : Frame) :
    FrameI.containsFalse f.bits f.data = .ok (f.contains (.bool false)) := by
  have : ¬ ((f.bits : Int) < 0) := by omega
  simp only [FrameI.containsFalse, Frame.contains, if_neg this, one_eq, pyShl_ofNat,
    one_shiftLeft_sub_one, mask]
  simp [Int.natCast_inj, bne]
  rfl

theorem add_model (f g : Frame) :
    f.add (some g) = (FrameI.add f.bits f.data g.bits g.data).map toFrame := by
  have hb : ¬ ((g.bits : Int) < 0) := by omega
  simp only [Frame.add, FrameI.add, if_neg hb, pyShl_ofNat, pyOr_ofNat, init_model]
  cases FrameI.init _ _ <;> rfl

theorem eq_model (f g : Frame) :
    FrameI.eq f.bits f.data g.bits g.data = .ok (f.eq (some g)) := by
  simp [FrameI.eq, Frame.eq, Int.natCast_inj]
  rfl

theorem ne_model (f g : Frame) :
    FrameI.ne f.bits f.data g.bits g.data = .ok (f.ne (some g)) := by
  simp [FrameI.ne, Frame.ne, Int.natCast_inj, bne]
  rfl

end DaliVerif.FrameI
