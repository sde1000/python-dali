import DaliVerif.Proofs.GearSeq
/-!
# Lemmas for C08: QueryDeviceTypes, QueryGroups, SetGroups against the specification bus
-/
namespace DaliVerif.GearSeq
open Prog

theorem ascending_iff : ∀ l : List Nat, ascending l = true ↔ l.Pairwise (· < ·)
  | [] => by simp [ascending]
  | [_] => by simp [ascending]
  | a :: b :: t => by
    rw [ascending, Bool.and_eq_true, decide_eq_true_eq, ascending_iff (b :: t), List.pairwise_cons (a := a)]
    refine ⟨fun ⟨h1, h2⟩ => ⟨fun x hx => ?_, h2⟩, fun ⟨h1, h2⟩ => ⟨h1 b (by simp), h2⟩⟩
    rcases List.mem_cons.mp hx with rfl | hx
    · exact h1
    · exact Nat.lt_trans h1 ((List.pairwise_cons.mp h2).1 x hx)

theorem ascending_append (acc : List Nat) (v : Nat) (h : ascending acc = true) (hv : ∀ x ∈ acc, x < v) :
    ascending (acc ++ [v]) = true := by
  rw [ascending_iff] at h ⊢
  exact List.pairwise_append.mpr ⟨h, List.pairwise_singleton _ _, fun x hx y hy => List.mem_singleton.mp hy ▸ hv x hx⟩

theorem ascending_get (T : List Nat) (h : ascending T = true) (i : Nat) (hi : i + 1 < T.length) :
    T[i] < T[i + 1] :=
  List.pairwise_iff_getElem.mp ((ascending_iff T).mp h) i (i + 1) _ _ (Nat.lt_succ_self i)

/-- The repaired loop against any environment whose answers are bytes; `R s acc` relates the
environment's state to the answers accepted so far.  The run ends with DALISequenceError or with a
strictly ascending list that `R` relates to the state in which 254 was answered, and within
`257 - next` commands (`256 - next` while `next ≤ 254`): the measure `256 - last_seen` decreases. -/
theorem qdtLoop_sound {σ : Type} (step : σ → Cmd → Resp × σ) (a : Addr) (R : σ → List Nat → Prop)
    (hstep : ∀ s acc v, R s acc → (step s (.queryNextDeviceType a)).1 = .byte v →
      v < 256 ∧ R (step s (.queryNextDeviceType a)).2 (acc ++ [v])) :
    ∀ (fuel next : Nat) (acc : List Nat) (s : σ), R s acc → 257 ≤ fuel + next → next ≤ 256 →
      ascending acc = true → (∀ x ∈ acc, x < next) →
      let o := (qdtLoop a fuel next acc).run step s
      (o.res = .raised .DALISequenceError ∨
        ∃ l s', o.res = .ret l ∧ ascending l = true ∧ l ≠ [] ∧
          R s' l ∧ (step s' (.queryNextDeviceType a)).1 = .byte 254 ∧
          o.trace.length + acc.length = l.length + 1) ∧
      o.trace.length + next ≤ 257 ∧ (next ≤ 254 → o.trace.length + next ≤ 256) := by
  intro fuel
  induction fuel with
  | zero => intro next acc s _ h1 h2; omega
  | succ f ih =>
    intro next acc s hI hf hn hasc hlt o
    simp only [o, qdtLoop, Prog.run]
    cases hr : (step s (.queryNextDeviceType a)).1 with
    | none => simp [Prog.run]; omega
    | err => simp [Prog.run]; omega
    | byte v =>
      obtain ⟨hv, hR⟩ := hstep s acc v hI hr
      simp only []
      by_cases h254 : v = 254
      · subst h254
        simp only [if_true]
        by_cases he : acc.isEmpty = true
        · simp [he, Prog.run]; omega
        · rw [if_neg he]
          simp only [Prog.run, List.length_cons, List.length_nil]
          exact ⟨.inr ⟨acc, s, rfl, hasc, by simpa using he, hI, hr, by omega⟩, by omega, by omega⟩
      · simp only [h254, if_false]
        by_cases hlt' : v < next
        · simp [hlt', Prog.run]; omega
        · simp only [hlt', if_false]
          have hltv : ∀ x ∈ acc, x < v := fun x hx => Nat.lt_of_lt_of_le (hlt x hx) (Nat.le_of_not_lt hlt')
          have hlt2 : ∀ x ∈ acc ++ [v], x < v + 1 := fun x hx => by
            rcases List.mem_append.mp hx with hx | hx
            · exact Nat.lt_succ_of_lt (hltv x hx)
            · exact List.mem_singleton.mp hx ▸ Nat.lt_succ_self v
          obtain ⟨h1, h2, h3⟩ := ih (v + 1) (acc ++ [v]) _ hR (by omega) (by omega)
            (ascending_append acc v hasc hltv) hlt2
          simp only [List.length_cons, List.length_append, List.length_nil] at h1 ⊢
          exact ⟨h1.imp id fun ⟨l, s', e, g1, g2, g3, g4, g5⟩ => ⟨l, s', e, g1, g2, g3, g4, by omega⟩,
            by omega, by omega⟩

theorem withDest_resolve {α : Type} (d : Dest) (a : Addr) (h : d.resolve = .ok a) (k : Addr → Prog α) :
    withDest d k = k a := by
  simp [withDest, h]

/-- QueryDeviceTypes against any such environment: bounded, and DALISequenceError or an ascending
list that is what the first answer and the loop determine -/
theorem qdt_sound {σ : Type} (step : σ → Cmd → Resp × σ) (a : Addr) (R : σ → List Nat → Prop)
    (hstep : ∀ s acc v, R s acc → (step s (.queryNextDeviceType a)).1 = .byte v →
      v < 256 ∧ R (step s (.queryNextDeviceType a)).2 (acc ++ [v]))
    (s : σ) (h0 : ∀ v, (step s (.queryDeviceType a)).1 = .byte v → v < 256 ∧ R (step s (.queryDeviceType a)).2 []) :
    let o := (queryDeviceTypes (.addr a)).run step s
    o.trace.length ≤ 257 ∧
    (o.res = .raised .DALISequenceError ∨
      ∃ l v, o.res = .ret l ∧ ascending l = true ∧ (step s (.queryDeviceType a)).1 = .byte v ∧
        if v < 254 then l = [v] ∧ o.trace.length = 1
        else if v = 254 then l = [] ∧ o.trace.length = 1
        else v = 255 ∧ l ≠ [] ∧ o.trace.length = l.length + 2 ∧
          ∃ s', R s' l ∧ (step s' (.queryNextDeviceType a)).1 = .byte 254) := by
  intro o
  simp only [o, queryDeviceTypes, withDest, Dest.resolve, Prog.run]
  cases hr : (step s (.queryDeviceType a)).1 with
  | none => simp [Prog.run]
  | err => simp [Prog.run]
  | byte v =>
    obtain ⟨hv, hR⟩ := h0 v hr
    simp only []
    by_cases h1 : v < 254
    · simp [h1, Prog.run, ascending]
    · simp only [h1, if_false]
      by_cases h2 : v = 254
      · simp [h2, Prog.run, ascending]
      · obtain rfl : v = 255 := by omega
        simp only [show ¬ ((255 : Nat) = 254) from by decide, if_false, if_true]
        obtain ⟨r1, -, r3⟩ := qdtLoop_sound step a R hstep 257 0 [] _ hR (by omega) (by omega) rfl (by simp)
        simp only [List.length_cons]
        refine ⟨by have := r3 (by omega); omega,
          r1.imp id fun ⟨l, s', e, g1, g2, g3, g4, g5⟩ => ⟨l, 255, e, g1, rfl, ?_⟩⟩
        simp only [show ¬ ((255 : Nat) < 254) from by decide, show ¬ ((255 : Nat) = 254) from by decide, if_false]
        exact ⟨trivial, g2, by simpa using g5, s', g3, g4⟩

/-- against an answer stream: a returned list is exactly the answers given, closed by 254 -/
theorem qdtStreamPost_holds (answers : Nat → Resp) (hb : ∀ i v, answers i = .byte v → v < 256)
    (a : Addr) : qdtStreamPost answers (runStream (queryDeviceTypes (.addr a)) answers) = true := by
  obtain ⟨g2, g1⟩ := qdt_sound (streamStep answers) a
    (fun i acc => i = acc.length + 1 ∧ ∀ j, j < acc.length → answers (j + 1) = .byte (acc.getD j 0))
    (fun i acc v ⟨hi, hacc⟩ hr => by
      refine ⟨hb i v hr, by simp [streamStep, hi], fun j hj => ?_⟩
      subst hi
      by_cases hj' : j < acc.length
      · rw [hacc j hj', List.getD_eq_getElem?_getD, List.getD_eq_getElem?_getD, List.getElem?_append_left hj']
      · obtain rfl : j = acc.length := by simp at hj; omega
        simpa [List.getD_eq_getElem?_getD, streamStep] using hr)
    0 fun v h => ⟨hb 0 v h, rfl, fun _ h => nomatch h⟩
  unfold qdtStreamPost runStream
  simp only [Bool.and_eq_true, decide_eq_true_eq]
  refine ⟨g2, ?_⟩
  rcases g1 with g1 | ⟨l, v, g1, gasc, h0, g3⟩
  · rw [g1]; rfl
  · rw [g1, show answers 0 = .byte v from h0]
    simp only [gasc, Bool.true_and]
    split at g3
    · simp [*]
    · split at g3
      · simp [*]
      · obtain ⟨rfl, t1, t3, s', ⟨rfl, t4⟩, t5⟩ := g3
        simp only [*, if_false, List.all_eq_true, List.mem_range, Bool.and_eq_true, beq_iff_eq, Bool.not_eq_true',
          List.isEmpty_eq_false_iff]
        exact ⟨⟨⟨⟨trivial, t1⟩, trivial⟩, t4⟩, t5⟩

theorem addressed_of (u u' : Gear) (a : Addr) (hs : u'.short = u.short)
    (hg : ∀ g, a = .group g → u'.groups.testBit g = u.groups.testBit g) :
    u'.addressed a = u.addressed a := by
  cases a with
  | short n => simp [Gear.addressed, hs]
  | group g => simp [Gear.addressed, hg g rfl]
  | broadcast => rfl
  | unaddressed => simp [Gear.addressed, hs]

theorem addressed_congr (u v : Gear) (a : Addr) (h1 : v.short = u.short) (h2 : v.groups = u.groups) :
    v.addressed a = u.addressed a :=
  addressed_of u v a h1 fun g _ => by rw [h2]

theorem step_qdt_st (u : Gear) (a : Addr) (c : Cmd)
    (hc : c = .queryDeviceType a ∨ c = .queryNextDeviceType a) :
    ∃ cur, (u.step c).2 = { u.tick with cursor := cur } := by
  rcases hc with rfl | rfl <;> simp only [Gear.step]
  · split
    · split <;> exact ⟨_, rfl⟩
    · exact ⟨_, rfl⟩
  · split
    · split
      · exact ⟨_, rfl⟩
      · split <;> exact ⟨_, rfl⟩
    · exact ⟨_, rfl⟩

theorem step_qdt_silent (u : Gear) (a : Addr) (c : Cmd)
    (hc : c = .queryDeviceType a ∨ c = .queryNextDeviceType a) (h : u.addressed a = false) :
    (u.step c).1 = none := by
  rcases hc with rfl | rfl <;> simp [Gear.step, h]

theorem step_qdt_resp (u : Gear) (a : Addr) :
    (u.step (.queryDeviceType a)).1 =
      if u.addressed a then some (match u.types with | [] => 254 | [t] => t | _ => 255) else none := by
  simp only [Gear.step]
  split
  · generalize u.types = T
    rcases T with _ | ⟨t, _ | _⟩ <;> rfl
  · rfl

theorem step_qnext_at (u : Gear) (a : Addr) (k : Nat) (hadd : u.addressed a = true)
    (hc : u.cursor = some k) :
    u.step (.queryNextDeviceType a) =
      if h : k < u.types.length then (some u.types[k], { u.tick with cursor := some (k + 1) })
      else (some 254, u.tick) := by
  simp only [Gear.step, hadd, hc, if_true]

theorem frame_qdt_filter (b : Bus) (a : Addr) (c : Cmd)
    (hc : c = .queryDeviceType a ∨ c = .queryNextDeviceType a) :
    ((Bus.frame b c).2).filter (·.addressed a) = (b.filter (·.addressed a)).map (fun u => (u.step c).2) := by
  refine filter_map_of_pres _ _ b fun u => ?_
  obtain ⟨cur, h⟩ := step_qdt_st u a c hc
  rw [h]
  exact addressed_congr u _ a rfl rfl

theorem ascending_two_le (t1 t2 : Nat) (ts : List Nat) : (t1 :: t2 :: ts) ≠ [] := by simp

/-- the NEXT loop against a bus on which exactly one unit, conforming, is addressed -/
theorem qdtLoop_conforming (a : Addr) (T : List Nat) (hT : T ≠ []) (hasc : ascending T = true)
    (h254 : ∀ x ∈ T, x < 254) :
    ∀ (fuel k next : Nat) (b : Bus) (u : Gear), k ≤ T.length →
      b.filter (·.addressed a) = [u] → u.types = T → u.cursor = some k →
      (∀ h : k < T.length, next ≤ T[k]) → 257 ≤ fuel + next → next ≤ 254 →
      (runBus (qdtLoop a fuel next (T.take k)) b).res = .ret T := by
  intro fuel
  induction fuel with
  | zero => intros; omega
  | succ f ih =>
    intro k next b u hk hf ht hc hnx hfu hn2
    subst ht
    simp only [runBus, qdtLoop, Prog.run]
    rw [exec_of_dt0 _ _ rfl, frame_resp_filter b _ _ fun v hv => step_qdt_silent v a _ (Or.inr rfl) hv, hf]
    have hst := step_qnext_at u a k (of_filter_eq_cons hf).2 hc
    by_cases hk' : k < u.types.length
    · rw [dif_pos hk'] at hst
      have hlt : u.types[k] < 254 := h254 _ (List.getElem_mem _)
      have hnk := hnx hk'
      simp only [List.filterMap_cons, List.filterMap_nil, hst, combine,
        show ¬ u.types[k] = 254 by omega, show ¬ u.types[k] < next by omega, if_false]
      rw [← List.take_succ_eq_append_getElem hk']
      refine ih (k + 1) (u.types[k] + 1) _ { u.tick with cursor := some (k + 1) } (by omega) ?_ rfl rfl
        (fun h => by have := ascending_get _ hasc k h; omega) (by omega) (by omega)
      rw [frame_qdt_filter b a _ (Or.inr rfl), hf, List.map_cons, List.map_nil, hst]
    · rw [dif_neg hk'] at hst
      have hemp : u.types.isEmpty = false := by simpa using hT
      simp [hst, combine, List.take_of_length_le (Nat.le_of_not_lt hk'), hemp, Prog.run]

/-- device types reported on the wire are bytes -/
def TypesWF (b : Bus) : Prop := ∀ u ∈ b, ∀ t ∈ u.types, t < 256

theorem combine_byte {l : List Nat} {v : Nat} (h : combine l = .byte v) : l = [v] := by
  match l, h with
  | [x], h => simp [combine] at h; simp [h]

theorem step_qdt_byte (u : Gear) (a : Addr) (c : Cmd)
    (hc : c = .queryDeviceType a ∨ c = .queryNextDeviceType a)
    (hw : ∀ t ∈ u.types, t < 256) (v : Nat) (h : (u.step c).1 = some v) : v < 256 := by
  rcases hc with hc | hc <;> subst hc
  · simp only [Gear.step] at h
    split at h
    · split at h
      · simp at h; omega
      · rename_i t ht
        simp at h; subst h; exact hw _ (by rw [ht]; simp)
      · simp at h; omega
    · simp at h
  · simp only [Gear.step] at h
    split at h
    · split at h
      · simp at h
      · split at h
        · simp at h; subst h; exact hw _ (List.getElem_mem _)
        · simp at h; omega
    · simp at h

theorem bus_qdt_step (a : Addr) (b : Bus) (c : Cmd)
    (hc : c = .queryDeviceType a ∨ c = .queryNextDeviceType a) (hw : TypesWF b) :
    ∀ v, (Bus.exec b c).1 = .byte v → v < 256 ∧ TypesWF (Bus.exec b c).2 := by
  have hdt : c.devicetype = 0 := by rcases hc with rfl | rfl <;> rfl
  rw [exec_of_dt0 _ _ hdt]
  refine fun v hv => ⟨?_, fun u' hu' t ht => ?_⟩
  · have : v ∈ b.filterMap (fun u => (u.step c).1) := by rw [combine_byte hv]; simp
    obtain ⟨u, hu, hans⟩ := List.mem_filterMap.mp this
    exact step_qdt_byte u a c hc (hw u hu) v hans
  · obtain ⟨u, hu, rfl⟩ := List.mem_map.mp hu'
    obtain ⟨cur, h⟩ := step_qdt_st u a c hc
    rw [h] at ht
    exact hw u hu t ht

/-- the result against a bus, by the number of units the frame is for -/
theorem qdt_bus_res (b : Bus) (a : Addr) :
    match b.filter (·.addressed a) with
    | [u] => u.typesConforming = true → (runBus (queryDeviceTypes (.addr a)) b).res = .ret u.types
    | _ => (runBus (queryDeviceTypes (.addr a)) b).res = .raised .DALISequenceError := by
  have hfil := frame_qdt_filter b a (.queryDeviceType a) (Or.inl rfl)
  simp only [runBus, queryDeviceTypes, withDest, Dest.resolve, Prog.run]
  rw [exec_of_dt0 _ _ rfl, frame_resp_map b _ _ _ fun u => step_qdt_resp u a]
  rcases hf : b.filter (·.addressed a) with _ | ⟨u, _ | ⟨u2, r⟩⟩ <;> simp only [hf]
  · rfl
  · intro hconf
    simp only [Gear.typesConforming, Bool.and_eq_true, List.all_eq_true, decide_eq_true_eq] at hconf
    obtain ⟨hasc, h254⟩ := hconf
    simp only [List.map, combine]
    rcases hty : u.types with _ | ⟨t1, _ | ⟨t2, ts⟩⟩
    · simp [Prog.run]
    · have ht1 : t1 < 254 := h254 t1 (by rw [hty]; simp)
      simp [ht1, Prog.run]
    · simp only [show ¬ ((255 : Nat) < 254) from by decide, show ¬ ((255 : Nat) = 254) from by decide,
        if_false, if_true]
      rw [← hty]
      refine qdtLoop_conforming a u.types (by simp [hty]) hasc h254 257 0 0 _ { u.tick with cursor := some 0 } (Nat.zero_le _) ?_ rfl rfl
        (fun _ => Nat.zero_le _) (by omega) (by omega)
      rw [hfil, hf, List.map_cons, List.map_nil]
      simp [Gear.step, (of_filter_eq_cons hf).2, hty]
  · rfl

/-- **QueryDeviceTypes against any bus** (`qdtPost`): bounded, never a non-ascending list,
an error when nobody or several units are addressed, and exactly the unit's list when the one
unit addressed is conforming. -/
theorem qdtPost_holds (b : Bus) (hw : TypesWF b) (a : Addr) :
    qdtPost b a (runBus (queryDeviceTypes (.addr a)) b) = true := by
  obtain ⟨g2, g1⟩ := qdt_sound Bus.exec a (fun b _ => TypesWF b)
    (fun s _ v hI => bus_qdt_step a s _ (.inr rfl) hI v) b (bus_qdt_step a b _ (.inl rfl) hw)
  have h := qdt_bus_res b a
  unfold qdtPost
  simp only [Bool.and_eq_true, decide_eq_true_eq]
  refine ⟨⟨g2, ?_⟩, ?_⟩
  · unfold runBus
    rcases g1 with g1 | ⟨l, _, g1, gasc, -⟩
    · rw [g1]; rfl
    · rw [g1]; exact gasc
  · rcases hf : b.filter (·.addressed a) with _ | ⟨u, _ | ⟨u2, r⟩⟩ <;> simp only [hf] at h ⊢
    · rw [h]; rfl
    · split
      · rw [h ‹_›]; exact beq_self_eq_true _
      · rfl
    · rw [h]; rfl

theorem bitsOf_mod (g : Nat) : bitsOf (g / 256 % 256 * 256 + g % 256) = bitsOf g := by
  have h : g / 256 % 256 * 256 + g % 256 = g % 2 ^ 16 := by omega
  rw [h]
  unfold bitsOf
  apply List.filter_congr
  intro i hi
  simp only [List.mem_range] at hi
  rw [Nat.testBit_mod_two_pow]
  simp [hi]

theorem tick_tick (u : Gear) : u.tick.tick = u.tick := rfl
theorem tick_groups (u : Gear) : u.tick.groups = u.groups := rfl

theorem filter_tick (b : Bus) (a : Addr) :
    (b.map Gear.tick).filter (·.addressed a) = (b.filter (·.addressed a)).map Gear.tick :=
  filter_map_of_pres Gear.tick (·.addressed a) b (fun u => tick_addressed u a)

theorem map_tick_groups (b : Bus) : (b.map Gear.tick).map (·.groups) = b.map (·.groups) := by
  simp [List.map_map, Function.comp_def, tick_groups]

theorem queryGroups_run (b : Bus) (a : Addr) :
    runBus (queryGroups (.addr a)) b =
      match b.filter (·.addressed a) with
      | [u] => ⟨.ret (bitsOf u.groups), b.map Gear.tick, [.queryGroups07 a, .queryGroups815 a]⟩
      | _ => ⟨.raised .DALISequenceError, b.map Gear.tick, [.queryGroups07 a]⟩ := by
  simp only [runBus, queryGroups, withDest, Dest.resolve, Prog.run]
  rw [exec_query b (.queryGroups07 a) a (·.groups % 256) rfl fun _ => rfl]
  rcases hf : b.filter (·.addressed a) with _ | ⟨u, _ | ⟨u2, r⟩⟩ <;> simp only [hf]
  · rfl
  · simp only [List.map, combine, Prog.run]
    rw [exec_query _ (.queryGroups815 a) a (·.groups / 256 % 256) rfl fun _ => rfl, filter_tick, hf]
    simp only [List.map, combine, Prog.run, tick_groups, bitsOf_mod, List.map_map]
    rfl
  · rfl

theorem groupsPost_holds (b : Bus) (a : Addr) :
    groupsPost b a (runBus (queryGroups (.addr a)) b) = true := by
  rw [queryGroups_run]
  unfold groupsPost
  rcases hf : b.filter (·.addressed a) with _ | ⟨u, _ | ⟨u2, r⟩⟩ <;>
    simp [hf, groupsUnchanged, tick_groups, isDSE]

/-- the command of one (add?, group index) entry -/
def gcmd (a : Addr) (p : Bool × Nat) : Cmd :=
  if p.1 then .addToGroup a p.2 else .removeFromGroup a p.2

theorem step_gcmd_addressed (u : Gear) (a : Addr) (p : Bool × Nat) (h : u.addressed a = true) :
    ((u.step (gcmd a p)).2).short = u.short ∧
    ∀ j, ((u.step (gcmd a p)).2).groups.testBit j = (if p.2 = j then p.1 else u.groups.testBit j) := by
  obtain ⟨ad, i⟩ := p
  cases ad with
  | true =>
    simp only [gcmd, if_true, Gear.step, h]
    refine ⟨rfl, fun j => ?_⟩
    by_cases hij : i = j <;> simp [hij]
  | false =>
    -- a set bit is toggled, a clear one left alone: either way bit `i` ends clear, the others stay
    simp only [gcmd, Bool.false_eq_true, if_false, Gear.step, h, true_and]
    split <;> refine ⟨rfl, fun j => ?_⟩ <;> by_cases hij : i = j <;> simp_all [Gear.tick]

theorem step_gcmd_not (u : Gear) (a : Addr) (p : Bool × Nat) (h : u.addressed a = false) :
    (u.step (gcmd a p)).2 = u.tick := by
  obtain ⟨ad, i⟩ := p
  cases ad <;> simp [gcmd, Gear.step, h]

theorem gcmd_dt (a : Addr) (p : Bool × Nat) : (gcmd a p).devicetype = 0 := by
  obtain ⟨ad, i⟩ := p; cases ad <;> rfl

/-- an addressed unit under a list of add / remove commands of which only the last may concern the
destination's own group (so that the unit hears them all): bit `j` ends as `v` when every entry for
`j` says `v` and, should there be none, the bit was `v` before -/
theorem fold_group (a : Addr) (j : Nat) (v : Bool) : ∀ (L : List (Bool × Nat)) (u : Gear),
    u.addressed a = true → (∀ g, a = .group g → ∀ p ∈ L.dropLast, p.2 ≠ g) →
    (∀ p ∈ L, p.2 = j → p.1 = v) → ((∀ p ∈ L, p.2 ≠ j) → u.groups.testBit j = v) →
    ((L.map (gcmd a)).foldl Gear.execSt u).groups.testBit j = v
  | [], u, _, _, _, hbit => hbit (fun _ h => nomatch h)
  | p :: L, u, hadd, hsafe, hall, hbit => by
    obtain ⟨hs, hb⟩ := step_gcmd_addressed u a p hadd
    have hbit' : (∀ q ∈ L, q.2 ≠ j) → ((u.step (gcmd a p)).2).groups.testBit j = v := by
      intro hL
      rw [hb]
      split
      · exact hall p (by simp) ‹_›
      · exact hbit (by simpa [‹¬ p.2 = j›] using hL)
    simp only [List.map_cons, List.foldl_cons, execSt_dt0 _ _ (gcmd_dt a p)]
    cases L with
    | nil => exact hbit' (fun _ h => nomatch h)
    | cons q L =>
      refine fold_group a j v (q :: L) _ ?_ (fun g hg r hr => hsafe g hg r (by simp [hr]))
        (fun r hr => hall r (by simp [hr])) hbit'
      rw [addressed_of u _ a hs, hadd]
      intro g hg
      rw [hb g, if_neg (hsafe g hg p (by simp))]

theorem fold_group_not (a : Addr) : ∀ (L : List (Bool × Nat)) (u : Gear), u.addressed a = false →
    ((L.map (gcmd a)).foldl Gear.execSt u).groups = u.groups := by
  intro L
  induction L with
  | nil => intro u _; rfl
  | cons p L ih =>
    intro u h
    simp only [List.map_cons, List.foldl_cons, execSt_dt0 _ _ (gcmd_dt a p), step_gcmd_not u a p h]
    rw [ih _ (by rw [tick_addressed]; exact h)]
    rfl

/-- program that issues the commands of a list of entries -/
def groupProg {α : Type} (a : Addr) (L : List (Bool × Nat)) (k : Prog α) : Prog α :=
  L.foldr (fun p k => groupCmd p.1 a p.2 k) k

theorem groupCmds_eq {α : Type} (add : Bool) (a : Addr) (l : List Nat) (k : Prog α) :
    groupCmds add a l k = groupProg a (l.map (fun i => (add, i))) k := by
  induction l with
  | nil => rfl
  | cons i is ih => simp [groupCmds, groupProg, ih]

theorem groupProg_map {α : Type} (a : Addr) (f : Nat → Bool) (l : List Nat) (k : Prog α) :
    l.foldr (fun i k => groupCmd (f i) a i k) k = groupProg a (l.map fun i => (f i, i)) k := by
  rw [groupProg, List.foldr_map]

theorem groupProg_append {α : Type} (a : Addr) (L1 L2 : List (Bool × Nat)) (k : Prog α) :
    groupProg a (L1 ++ L2) k = groupProg a L1 (groupProg a L2 k) := by
  simp [groupProg, List.foldr_append]

theorem run_groupProg {σ : Type} (step : σ → Cmd → Resp × σ) (a : Addr) :
    ∀ (L : List (Bool × Nat)) (s : σ), (∀ p ∈ L, p.2 < 16) →
      (groupProg a L (.done ())).run step s =
        ⟨.ret (), (L.map (gcmd a)).foldl (fun s c => (step s c).2) s, L.map (gcmd a)⟩ := by
  intro L
  induction L with
  | nil => intro s _; rfl
  | cons p L ih =>
    intro s h
    have hp : p.2 < 16 := h p (by simp)
    have : groupProg a (p :: L) (.done ()) = .send (gcmd a p) (fun _ => groupProg a L (.done ())) := by
      obtain ⟨ad, i⟩ := p
      simp only [groupProg, List.foldr_cons, groupCmd, Prog.tell, gcmd] at hp ⊢
      simp [hp]
    rw [this]
    simp only [Prog.run, List.map_cons, List.foldl_cons]
    rw [ih _ (fun q hq => h q (by simp [hq]))]

theorem mem_bitsOf (g i : Nat) : i ∈ bitsOf g ↔ i < 16 ∧ g.testBit i = true := by
  simp [bitsOf, List.mem_filter]

theorem contains_bitsOf (g i : Nat) : (bitsOf g).contains i = (decide (i < 16) && g.testBit i) := by
  rw [Bool.eq_iff_iff]
  simp [mem_bitsOf]

theorem groupOrder_perm (a : Addr) (hg : ∀ g, a = .group g → g < 16) :
    (groupOrder a).Perm (List.range 16) := by
  cases a with
  | group g =>
    have hg' : g ∈ List.range 16 := by simp [hg g rfl]
    simp only [groupOrder]
    exact (List.perm_append_comm.trans (List.perm_cons_erase hg').symm)
  | short n => exact List.Perm.refl _
  | broadcast => exact List.Perm.refl _
  | unaddressed => exact List.Perm.refl _

theorem mod_eq_of_bits (x req : Nat) (hreq : req < 65536)
    (h : ∀ j, j < 16 → x.testBit j = req.testBit j) : x % 65536 = req := by
  apply Nat.eq_of_testBit_eq
  intro j
  have : (65536 : Nat) = 2 ^ 16 := by decide
  rw [this, Nat.testBit_mod_two_pow]
  by_cases hj : j < 16
  · simp [hj, h j hj]
  · simp only [hj, decide_false, Bool.false_and]
    symm
    apply Nat.testBit_lt_two_pow
    calc req < 2 ^ 16 := by omega
      _ ≤ 2 ^ j := Nat.pow_le_pow_right (by decide) (by omega)

/-- membership afterwards, from what a sequence of commands does to each unit's bits -/
theorem groupsAfter_fold (b : Bus) (a : Addr) (req : Nat) (hreq : req < 65536) (T : List Cmd)
    (hyes : ∀ u ∈ b, u.addressed a = true →
      ∀ j, j < 16 → (T.foldl Gear.execSt u).groups.testBit j = req.testBit j)
    (hno : ∀ u ∈ b, u.addressed a = false → (T.foldl Gear.execSt u).groups = u.groups) :
    groupsAfter b (b.map fun u => T.foldl Gear.execSt u) (·.addressed a) req = true := by
  simp only [groupsAfter, List.length_map, beq_self_eq_true, Bool.true_and, all_zip_map, List.all_eq_true]
  intro u hu
  cases hadd : u.addressed a
  · simpa using hno u hu hadd
  · simpa using mod_eq_of_bits _ _ hreq (hyes u hu hadd)

theorem setGroups_full (b : Bus) (a : Addr) (req : Nat) (hreq : req < 65536)
    (hns : ∀ n, a ≠ .short n) (hg : ∀ g, a = .group g → g < 16) (ord : List Nat → List Nat) :
    setGroupsPost b a req (runBus (setGroups (.addr a) (bitsOf req) ord) b) = true := by
  have hd : (Dest.addr a).isShortOrInt = false := by
    cases a with
    | short n => exact absurd rfl (hns n)
    | _ => rfl
  have hperm := groupOrder_perm a hg
  have hlt : ∀ p ∈ (groupOrder a).map (fun i => ((bitsOf req).contains i, i)), p.2 < 16 := by
    intro p hp
    obtain ⟨i, hi, rfl⟩ := List.mem_map.mp hp
    simpa using hperm.mem_iff.mp hi
  rw [runBus_eta]
  simp only [runBus, setGroups, hd, Bool.false_eq_true, if_false, withDest, Dest.resolve, groupProg_map,
    run_groupProg Bus.exec a _ b hlt]
  unfold setGroupsPost
  split
  · exact absurd rfl (hns _)
  simp only [Bool.and_eq_true]
  refine ⟨⟨⟨⟨rfl, ?_⟩, ?_⟩, ?_⟩, ?_⟩
  · simp [hperm.length_eq]
  · rw [List.isPerm_iff, List.map_map, List.map_map]
    refine (List.Perm.of_eq ((List.map_congr_left fun i _ => ?_).trans (List.map_id _))).trans hperm
    simp only [Function.comp, gcmd]
    cases (bitsOf req).contains i <;> rfl
  · simp only [List.all_eq_true, List.mem_map]
    rintro c ⟨p, ⟨i, hi, rfl⟩, rfl⟩
    have hi16 : i < 16 := by simpa using hperm.mem_iff.mp hi
    by_cases hc : i ∈ bitsOf req <;> simp [gcmd, hc, hi16]
  · refine groupsAfter_fold b a req hreq _ (fun u _ hadd j hj => ?_) (fun u _ hadd => fold_group_not a _ u hadd)
    refine fold_group a j _ _ u hadd (fun g hg p hp => ?_) ?_ (fun h => ?_)
    · subst hg
      simp only [groupOrder, List.map_append, List.map_cons, List.map_nil, List.dropLast_concat,
        List.mem_map] at hp
      obtain ⟨i, hi, rfl⟩ := hp
      exact fun h => ((List.nodup_range).mem_erase_iff.mp (h ▸ hi)).1 rfl
    · rintro p hp rfl
      obtain ⟨i, -, rfl⟩ := List.mem_map.mp hp
      show (bitsOf req).contains i = req.testBit i
      rw [contains_bitsOf]
      simp [show i < 16 from hj]
    · exact absurd rfl (h (_, j) (List.mem_map.mpr ⟨j, hperm.mem_iff.mpr (by simp [hj]), rfl⟩))

theorem execSt_q07 (u : Gear) (a : Addr) : u.execSt (.queryGroups07 a) = u.tick := rfl

theorem setGroups_short (b : Bus) (n : Nat) (req : Nat) (hreq : req < 65536)
    (ord : List Nat → List Nat) (hord : ∀ l, (ord l).Perm l) :
    setGroupsPost b (.short n) req (runBus (setGroups (.addr (.short n)) (bitsOf req) ord) b) = true := by
  have q := queryGroups_run b (.short n)
  have hD : ∀ (X Y : List Nat) i, i ∈ ord (X.filter fun i => !Y.contains i) ↔ i ∈ X ∧ i ∉ Y := fun X Y i => by
    rw [(hord _).mem_iff]; simp
  rw [runBus_eta]
  simp only [runBus, setGroups, Dest.isShortOrInt, if_true, withDest, Dest.resolve, groupCmds_eq,
    ← groupProg_append, run_bind] at q ⊢
  rw [setGroupsPost]
  rcases hf : b.filter (·.addressed (.short n)) with _ | ⟨u, _ | ⟨u2, r⟩⟩ <;> simp -zeta only [q, hf]
  · simp [isDSE, groupsUnchanged, execSt_q07, tick_groups]
  · extract_lets cur adds rems
    have hlt : ∀ p ∈ (ord adds).map (fun i => (true, i)) ++ (ord rems).map (fun i => (false, i)), p.2 < 16 := by
      intro p hp
      simp only [List.mem_append, List.mem_map, adds, rems, hD, cur, mem_bitsOf] at hp
      rcases hp with ⟨i, hi, rfl⟩ | ⟨i, hi, rfl⟩ <;> exact hi.1.1
    have hla : ∀ f : Nat → Cmd, ((ord adds).map f).length = adds.length := fun f => by
      rw [List.length_map, (hord adds).length_eq]
    rw [run_groupProg Bus.exec _ _ _ hlt, List.map_append, List.map_map, List.map_map]
    simp only [Bool.and_eq_true]
    refine ⟨⟨⟨⟨rfl, by simp⟩, ?_⟩, ?_⟩, ?_⟩
    · show (List.take adds.length (List.map _ _ ++ _)).isPerm _ = true
      rw [List.take_left' (hla _), List.isPerm_iff]
      exact (hord adds).map _
    · show (List.drop adds.length (List.map _ _ ++ _)).isPerm _ = true
      rw [List.drop_left' (hla _), List.isPerm_iff]
      exact (hord rems).map _
    · rw [← List.map_map, ← List.map_map, ← List.map_append]
      refine groupsAfter_fold b _ req hreq _ (fun u0 hu0 hadd j hj => ?_) (fun u0 _ hadd => ?_)
      · obtain rfl : u0 = u := List.mem_singleton.mp (hf ▸ List.mem_filter.mpr ⟨hu0, hadd⟩)
        refine fold_group (.short n) j _ _ u0.tick ((tick_addressed u0 _).trans hadd) (fun _ hg => nomatch hg) ?_ ?_
        · rintro p hp rfl
          simp only [List.mem_append, List.mem_map, adds, rems, hD, cur, mem_bitsOf] at hp
          rcases hp with ⟨i, hi, rfl⟩ | ⟨i, hi, rfl⟩
          · exact hi.1.2.symm
          · exact (Bool.eq_false_iff.mpr fun h => hi.2 ⟨hi.1.1, h⟩).symm
        · intro h
          have h1 : j ∉ ord adds := fun hx => h (true, j) (by simp [hx]) rfl
          have h2 : j ∉ ord rems := fun hx => h (false, j) (by simp [hx]) rfl
          simp only [adds, rems, hD, cur, mem_bitsOf, hj, true_and] at h1 h2
          show u0.groups.testBit j = req.testBit j
          revert h1 h2
          cases req.testBit j <;> cases u0.groups.testBit j <;> simp
      · exact fold_group_not (.short n) _ u0.tick ((tick_addressed u0 _).trans hadd)
  · simp [isDSE, groupsUnchanged, execSt_q07, tick_groups]

end DaliVerif.GearSeq
