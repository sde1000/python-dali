import DaliVerif.Proofs.Bits
import DaliVerif.Spec.AddressSpec
/-!
# C04's address half: reading is the standard's partition, writing has a closed form

`kindFromFrame_iff`: each class's own `from_frame` is the partition of `Spec/AddressSpec.lean` restricted to that
class, proved once through the 7-bit address field; hence `fromFrame_eq_partition` for any registration order that
contains the eight concrete classes.  `addToFrame_eq`: the one or two writes of `add_to_frame` amount to
`2^(size-7) * addrByte a + d % 2^(size-7)`.
-/
set_option linter.unusedSimpArgs false
namespace DaliVerif
open Frame Spec

theorem bitTest_eq (d i : Nat) : getBitRaw d i = decide (d / 2 ^ i % 2 = 1) := by
  rw [getBitRaw_eq_testBit, Nat.testBit_eq_decide_div_mod_eq]

theorem setBitRaw_eq_setSlice (bits d k : Nat) (v : Bool) (hk : k < bits) (hd : d < 2 ^ bits) :
    setBitRaw bits d k v = setSliceRaw bits d k k (if v then 1 else 0) := by
  apply Nat.eq_of_testBit_eq
  intro i
  have hv : (if v then 1 else 0) < 2 ^ (k + 1 - k) := by
    rw [Nat.add_sub_cancel_left]; cases v <;> decide
  rw [testBit_setBitRaw _ _ _ _ _ hd, testBit_setSliceRaw _ _ _ _ _ _ (Nat.le_refl k) hk hd hv]
  by_cases h : i = k
  · subst h; cases v <;> simp
  · have : ¬ (k ≤ i ∧ i ≤ k) := by omega
    simp [h, this]

/-- the upper part of the field `d / m % (n * k)` -/
theorem field_hi (d m n k : Nat) : d / (m * n) % k = d / m % (n * k) / n := by
  rw [← Nat.div_div_eq_div_mul, Nat.mod_mul_right_div_self]

/-- the lower part of the field `d / m % (n * k)` -/
theorem field_lo (d m n k : Nat) : d / m % n = d / m % (n * k) % n :=
  (Nat.mod_mul_right_mod ..).symm

theorem findSome?_unique_mem {α β} (g : α → Option β) (l : List α) (b : β)
    (huniq : ∀ k ∈ l, ∀ b', g k = some b' → b' = b) (k : α) (hk : k ∈ l) (hg : g k = some b) :
    l.findSome? g = some b := by
  induction l with
  | nil => cases hk
  | cons x xs ih =>
    simp only [List.findSome?_cons]
    cases hx : g x with
    | some b' => simp [huniq x (by simp) b' hx]
    | none =>
      simp only
      rcases List.mem_cons.mp hk with rfl | hk'
      · rw [hx] at hg; contradiction
      · exact ih (fun k hk b' h => huniq k (by simp [hk]) b' h) hk'

namespace Addr

def kindOf : Addr → AddrKind
  | .gearBroadcast => .gearBroadcast | .deviceBroadcast => .deviceBroadcast
  | .gearUnaddressed => .gearUnaddressed | .deviceUnaddressed => .deviceUnaddressed
  | .gearGroup _ => .gearGroup | .deviceGroup _ => .deviceGroup
  | .gearShort _ => .gearShort | .deviceShort _ => .deviceShort

/-- a class's own `from_frame` yields an address exactly when the standard's partition assigns the frame
that address and the address is of that class -/
theorem kindFromFrame_iff (k : AddrKind) (f : Frame) (a : Addr) :
    kindFromFrame k f = some a ↔ kindOf a = k ∧ partition f = some a := by
  obtain ⟨bits, d⟩ := f
  -- every slice a class reads is a part of the 7-bit address field `B`
  have g1 : d / 8192 % 8 = d / 512 % 128 / 16 := field_hi d 512 16 8
  have g2 : d / 512 % 16 = d / 512 % 128 % 16 := field_lo d 512 16 8
  have g3 : d / 32768 % 2 = d / 512 % 128 / 64 := field_hi d 512 64 2
  have g4 : d / 512 % 64 = d / 512 % 128 % 64 := field_lo d 512 64 2
  have d1 : d / 4194304 % 4 = d / 131072 % 128 / 32 := field_hi d 131072 32 4
  have d2 : d / 131072 % 32 = d / 131072 % 128 % 32 := field_lo d 131072 32 4
  have d3 : d / 8388608 % 2 = d / 131072 % 128 / 64 := field_hi d 131072 64 2
  have d4 : d / 131072 % 64 = d / 131072 % 128 % 64 := field_lo d 131072 64 2
  simp only [kindFromFrame, partition, gearPartition, devicePartition, bitTest_eq, getSliceRaw_eq,
    Nat.reducePow, Nat.reduceAdd, Nat.reduceSub, g1, g2, g3, g4, d1, d2, d3, d4]
  have hB : d / 512 % 128 < 128 := Nat.mod_lt _ (by decide)
  have hC : d / 131072 % 128 < 128 := Nat.mod_lt _ (by decide)
  generalize d / 512 % 128 = B at hB ⊢
  generalize d / 131072 % 128 = C at hC ⊢
  generalize d / 65536 % 2 = s
  clear g1 g2 g3 g4 d1 d2 d3 d4
  -- what is left compares `B < 128` with the ranges of the partition, class by class
  constructor
  · intro h
    cases k <;> grind [kindOf]
  · -- each branch of the partition names its address, and with it the class to look at
    rintro ⟨rfl, h⟩
    grind [kindOf]

theorem kind_sound (k : AddrKind) (f : Frame) (a : Addr)
    (h : kindFromFrame k f = some a) : partition f = some a :=
  ((kindFromFrame_iff k f a).mp h).2

theorem kind_complete (f : Frame) (a : Addr) (h : partition f = some a) :
    ∃ k ∈ concreteKinds, kindFromFrame k f = some a :=
  ⟨kindOf a, by cases a <;> simp [kindOf, concreteKinds], (kindFromFrame_iff _ f a).mpr ⟨rfl, h⟩⟩

theorem addrByte_lt (a : Addr) (hv : a.Valid) : addrByte a < 128 := by
  cases a <;> simp only [addrByte, Valid] at * <;> omega

/-- writing an address replaces the 7-bit field at the top of the frame: the one or two writes of
`add_to_frame` (a bit write is a slice write of width 1) are adjacent and make up one write of
`addrByte a` (`setSliceRaw_setSliceRaw`) -/
theorem addToFrame_eq (a : Addr) (hv : a.Valid) (d : Nat) (hd : d < 2 ^ a.frameSize) :
    a.addToFrame ⟨a.frameSize, d⟩ =
      .ok ⟨a.frameSize, 2 ^ (a.frameSize - 7) * addrByte a + d % 2 ^ (a.frameSize - 7)⟩ := by
  cases a <;>
    simp only [addToFrame, Addr.frameSize, Addr.isGear, bne_self_eq_false, if_true,
      Bool.false_eq_true, if_false, addrByte, Valid] at hd hv ⊢
  case gearGroup g | deviceGroup g =>
    rw [setSliceRaw_setSliceRaw _ _ _ _ _ _ _ (by omega) (by omega) (by omega) hd (by omega)
      (by omega), setSliceA_of_lt hd]
  case gearShort s | deviceShort s =>
    rw [setBitRaw_eq_setSlice _ _ _ _ (by omega) hd, if_neg Bool.false_ne_true,
      setSliceRaw_setSliceRaw _ _ _ _ _ _ _ (by omega) (by omega) (by omega) hd (by omega)
      (by omega), setSliceA_of_lt hd]
    simp
  all_goals rw [setSliceRaw_eqA _ _ _ _ _ (by omega) (by omega) hd (by omega), setSliceA_of_lt hd]

theorem addToFrame_gear (a : Addr) (hv : a.Valid) (hg : a.isGear = true) (d : Nat) (hd : d < 65536) :
    a.addToFrame ⟨16, d⟩ = .ok ⟨16, 512 * addrByte a + d % 512⟩ := by
  simpa [frameSize, hg] using addToFrame_eq a hv d (by simpa [frameSize, hg] using hd)

theorem addToFrame_device (a : Addr) (hv : a.Valid) (hg : a.isGear = false) (d : Nat)
    (hd : d < 16777216) :
    a.addToFrame ⟨24, d⟩ = .ok ⟨24, 131072 * addrByte a + d % 131072⟩ := by
  simpa [frameSize, hg] using addToFrame_eq a hv d (by simpa [frameSize, hg] using hd)
theorem gearPartition_addrByte (a : Addr) (hv : a.Valid) (hg : a.isGear = true) :
    gearPartition (addrByte a) = some a := by
  cases a <;> grind [gearPartition, addrByte, Valid, isGear]

theorem devicePartition_addrByte (a : Addr) (hv : a.Valid) (hg : a.isGear = false) :
    devicePartition true (addrByte a) = some a := by
  cases a <;> grind [devicePartition, addrByte, Valid, isGear]

/-- **decode partition**: whatever the registration order, reading a frame
yields exactly the address the standard's partition assigns (at most one kind). -/
theorem fromFrame_eq_partition (order : List AddrKind) (hok : OrderOK order) (f : Frame) :
    fromFrame order f = partition f := by
  unfold fromFrame
  cases hp : partition f with
  | none =>
    rw [List.findSome?_eq_none_iff]
    intro k _
    cases hk : kindFromFrame k f with
    | none => rfl
    | some a => rw [kind_sound k f a hk] at hp; contradiction
  | some a =>
    obtain ⟨k, hk, hka⟩ := kind_complete f a hp
    apply findSome?_unique_mem _ _ _ _ k (hok k hk) hka
    intro k' _ b' hb'
    have := kind_sound k' f b' hb'
    rw [hp] at this; injection this with this; exact this.symm

end Addr
end DaliVerif
