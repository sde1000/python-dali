import DaliVerif.Spec.AnswerTable
/-!
# C16 — lemmas about the pure answer mappings (`Model/Answer.lean`)

Every driver builds its normal result as `answerOf c o`: `None` for a command
without response class, an object of the command's class otherwise.  Per gateway:
that shape (hasseb apart, which also returns `None` on an unknown status), the
outcome `o` the driver reads off the protocol's reports
(`Spec/AnswerTable.lean`), and for the Tridonic loop that a report of an unknown
type does not change the result.
-/
namespace DaliVerif.Proofs.AnswerTable
open DaliVerif DaliVerif.Answer DaliVerif.Spec.AnswerTable DaliVerif.Gen

attribute [local simp] Watch.RESPONSE_FRAME_DALI16 Watch.RESPONSE_FRAME_DALI24
  Watch.RESPONSE_FRAME_DALI8 Watch.RESPONSE_INFO Watch.RESPONSE_NO_FRAME
  Watch.BUS_STATUS_FRAMING_ERROR Watch.HASSEB_NO_ANSWER Watch.HASSEB_OK Watch.HASSEB_INVALID_ANSWER

/-- `send`'s result when the driver reads the bus outcome as `o` -/
def answerOf (c : CmdInfo) (o : Outcome) : Answer :=
  match c.resp with
  | none => .none
  | some cls => .resp cls o

theorem answerOf_resp {c : CmdInfo} {o' : Outcome} {cls : Nat}
    (h : ∃ o, .resp cls o' = answerOf c o) : c.resp = some cls := by
  obtain ⟨o, h⟩ := h
  unfold answerOf at h
  split at h
  · cases h
  · next hk => injection h with h; rw [hk, h]

theorem answerOf_none_iff {c : CmdInfo} {a : Answer} (h : ∃ o, a = answerOf c o) :
    a = .none ↔ c.resp = none := by
  obtain ⟨o, rfl⟩ := h
  unfold answerOf
  split <;> simp [*]

/-- The outcome a driver reads off the reports for `bus`: a garbled answer is a framing error
with byte `x` where the protocol reports it (`fe = some x`), silence where it does not. -/
def readAs (fe : Option Nat) : Bus → Outcome
  | .silent => .silent
  | .value b => .value b
  | .garbled => match fe with
    | some x => .framing x
    | none => .silent

theorem conforms_readAs (gw : Gateway) (c : CmdInfo) (bus : Bus) (fe : Option Nat)
    (h : reportsGarbled gw = fe.isSome) : conforms gw c bus (answerOf c (readAs fe bus)) = true := by
  unfold conforms answerOf
  cases c.resp with
  | none => rfl
  | some cls => cases bus <;> cases fe <;> simp [readAs, h]

theorem triFinish_eq (c : CmdInfo) (r : TResp) :
    triFinish c r = answerOf c (match r with
      | .back b => .value b
      | .err => .framing 255
      | _ => .silent) := by
  unfold triFinish answerOf
  cases c.resp <;> cases r <;> rfl

theorem triLoop_ok {c : CmdInfo} {msgs : List TMsg} {o : Int} {r : TResp} {n k : Nat} {a : Answer}
    (h : triLoop c o r n msgs = .done (.ok a) k) : ∃ r', a = triFinish c r' := by
  induction msgs generalizing o r n with
  | nil =>
    unfold triLoop at h
    split at h
    · contradiction
    · injection h with h1 h2; injection h1 with h1; exact ⟨r, h1.symm⟩
  | cons m ms ih =>
    unfold triLoop at h
    split at h
    · cases m with
      | fail => simp at h
      | rep t f0 f1 f2 f3 =>
        simp only at h
        split at h
        · exact ih h
        · simp at h
    · injection h with h1 h2; injection h1 with h1; exact ⟨r, h1.symm⟩

theorem tridonic_answerOf {c : CmdInfo} {msgs : List TMsg} {n : Nat} {a : Answer}
    (h : tridonicAnswer c msgs = .done (.ok a) n) : ∃ o, a = answerOf c o := by
  obtain ⟨r, rfl⟩ := triLoop_ok h
  exact ⟨_, triFinish_eq c r⟩

theorem tridonic_run (c : CmdInfo) (b24 : Bool) (bus : Bus) (hb : ∀ b, bus = .value b → b < 256) :
    tridonicAnswer c (tridonicReports b24 c.twice bus) =
      .done (.ok (answerOf c (readAs (some 255) bus))) (tridonicReports b24 c.twice bus).length := by
  simp only [tridonicAnswer, tridonicReports]
  cases c.twice <;> cases bus with
  | value b => simp [triLoop, triStep, backOfBytes, triFinish_eq, readAs, hb b rfl]
  | _ => simp [triLoop, triStep, triFinish_eq, readAs]

/-- an unknown status code leaves `response = None` even for a query -/
theorem hasseb_answerOf {c : CmdInfo} {rep : HRep} {a : Answer} (h : hassebAnswer c rep = .ok a) :
    (∃ o, a = answerOf c o) ∨
      a = .none ∧ ∀ st b, rep = .rep st b → st ≠ 1 ∧ st ≠ 2 ∧ st ≠ 3 := by
  obtain ⟨_ | k, tw⟩ := c
  · injection h with h; exact .inl ⟨.silent, h.symm⟩
  · cases rep with
    | fail => cases h
    | rep st b =>
      simp only [hassebAnswer, mkResp] at h
      by_cases h1 : st = Watch.HASSEB_NO_ANSWER
      · rw [if_pos h1] at h; cases h; exact .inl ⟨_, rfl⟩
      rw [if_neg h1] at h
      by_cases h2 : st = Watch.HASSEB_OK
      · rw [if_pos h2] at h; split at h <;> cases h; exact .inl ⟨_, rfl⟩
      rw [if_neg h2] at h
      by_cases h3 : st = Watch.HASSEB_INVALID_ANSWER
      · rw [if_pos h3] at h; split at h <;> cases h; exact .inl ⟨_, rfl⟩
      rw [if_neg h3] at h; cases h
      exact .inr ⟨rfl, fun _ _ e => by cases e; exact ⟨h1, h2, h3⟩⟩

theorem hasseb_run (c : CmdInfo) (bus : Bus) (junk : Nat)
    (hb : ∀ b, bus = .value b → b < 256) (hj : junk < 256) :
    hassebAnswer c (hassebReport bus junk) = .ok (answerOf c (readAs (some junk) bus)) := by
  obtain ⟨_ | k, tw⟩ := c
  · rfl
  · cases bus with
    | value b => simp [hassebAnswer, hassebReport, answerOf, readAs, mkResp, hb b rfl]
    | _ => simp [hassebAnswer, hassebReport, answerOf, readAs, mkResp, hj]

theorem luba_answerOf {c : CmdInfo} {w : SWait} {a : Answer} (h : lubaAnswer c w = .ok a) :
    ∃ o, a = answerOf c o := by
  obtain ⟨_ | k, tw⟩ := c
  · injection h with h; exact ⟨.silent, h.symm⟩
  · cases w with
    | timeout => injection h with h; exact ⟨_, h.symm⟩
    | got b =>
      simp only [lubaAnswer, mkResp] at h
      split at h
      · injection h with h; exact ⟨_, h.symm⟩
      · cases h

theorem luba_run (c : CmdInfo) (bus : Bus) (hb : ∀ b, bus = .value b → b < 256) :
    lubaAnswer c (serialWait bus) = .ok (answerOf c (readAs none bus)) := by
  obtain ⟨_ | k, tw⟩ := c
  · rfl
  · cases bus with
    | value b => simp [lubaAnswer, serialWait, answerOf, readAs, mkResp, hb b rfl]
    | _ => rfl

theorem daliserver_answerOf {c : CmdInfo} {v s r p : Nat} {a : Answer}
    (h : daliserverUnpack c v s r p = .ok a) : ∃ o, a = answerOf c o := by
  obtain ⟨_ | k, tw⟩ := c
  · injection h with h; exact ⟨.silent, h.symm⟩
  · simp only [daliserverUnpack, mkResp] at h
    repeat' split at h
    all_goals cases h
    all_goals exact ⟨_, rfl⟩

theorem daliserver_run (c : CmdInfo) (bus : Bus) (junk : Nat) :
    daliserverUnpack c (daliserverReply bus junk).1 (daliserverReply bus junk).2.1
        (daliserverReply bus junk).2.2.1 (daliserverReply bus junk).2.2.2 =
      .ok (answerOf c (readAs (some 255) bus)) := by
  obtain ⟨_ | k, tw⟩ := c <;> cases bus <;> rfl

theorem atx_answerOf {c : CmdInfo} {lines : List ALine} {a : Answer}
    (h : atxAnswer c lines = .ok a) : ∃ o, a = answerOf c o := by
  unfold atxAnswer at h
  split at h
  · cases h
  · next v _ =>
    obtain ⟨_ | k, tw⟩ := c
    · injection h with h; exact ⟨.silent, h.symm⟩
    · cases v <;> cases h <;> exact ⟨_, rfl⟩

theorem atx_nonquery {c : CmdInfo} {lines : List ALine} {a : Answer}
    (h : atxAnswer c lines = .ok a) (hc : c.resp = none) : a = .none :=
  (answerOf_none_iff (atx_answerOf h)).mpr hc

theorem atx_run (c : CmdInfo) (bus : Bus) (hb : ∀ b, bus = .value b → b < 256) :
    atxAnswer c (atxLines c.twice bus) = .ok (answerOf c (readAs none bus)) := by
  obtain ⟨_ | k, _ | _⟩ := c <;> cases bus with
  | value b => simp [atxAnswer, atxLines, atxLoop, atxExtract, AVal.ofExtract, answerOf, readAs, mkResp, hb b rfl]
  | _ => rfl

theorem triStep_ignorable {t f3 : Nat}
    (h : t ≠ 0x71 ∧ t ≠ 0x72 ∧ t ≠ 0x73 ∧ t ≠ 0x76 ∧ ¬ (t = 0x77 ∧ f3 = 3))
    (o : Int) (r : TResp) (f0 f1 f2 : Nat) : triStep o r t f0 f1 f2 f3 = .ok (o, r) := by
  obtain ⟨h1, h2, h3, h4, h5⟩ := h
  simp only [triStep, Watch.RESPONSE_FRAME_DALI16, Watch.RESPONSE_FRAME_DALI24,
    Watch.RESPONSE_FRAME_DALI8, Watch.RESPONSE_INFO, Watch.RESPONSE_NO_FRAME,
    Watch.BUS_STATUS_FRAMING_ERROR, h1, h2, h3, h4, h5, or_self, if_false]

/-- the result of the loop when one ignored report is inserted after `p` messages: it is
counted as consumed iff the loop gets that far -/
def withInserted (p : Nat) : TRes → TRes
  | .done a k => .done a (if k ≤ p then k else k + 1)
  | .blocked => .blocked

theorem withInserted_of_lt {p k : Nat} (h : p < k) (a : PyRes Answer) :
    withInserted p (.done a k) = .done a (k + 1) := by
  simp only [withInserted]; rw [if_neg]; omega

/-- Starting the count one higher shifts the result like an insertion at `p`, when the loop
gets beyond `p`: it has already (`p < n`) or is about to take a message. -/
theorem triLoop_succ (c : CmdInfo) (o : Int) (r : TResp) {p n : Nat} (l : List TMsg)
    (h : p < n ∨ p = n ∧ (o ≠ 0 ∨ r = .unset)) :
    triLoop c o r (n + 1) l = withInserted p (triLoop c o r n l) := by
  induction l generalizing o r n with
  | nil =>
    unfold triLoop
    split
    · rfl
    · next hn => exact (withInserted_of_lt (h.resolve_right fun h' => hn h'.2) _).symm
  | cons m ms ih =>
    unfold triLoop
    split
    · cases m with
      | fail => exact (withInserted_of_lt (by omega) _).symm
      | rep t f0 f1 f2 f3 =>
        dsimp only
        split
        · exact ih _ _ (.inl (by omega))
        · exact (withInserted_of_lt (by omega) _).symm
    · next hn => exact (withInserted_of_lt (h.resolve_right fun h' => hn h'.2) _).symm

theorem triLoop_insert (c : CmdInfo) (o : Int) (r : TResp) (n : Nat) (pre post : List TMsg)
    {t f0 f1 f2 f3 : Nat} (h : ∀ o r, triStep o r t f0 f1 f2 f3 = .ok (o, r)) :
    triLoop c o r n (pre ++ .rep t f0 f1 f2 f3 :: post) =
      withInserted (n + pre.length) (triLoop c o r n (pre ++ post)) := by
  induction pre generalizing o r n with
  | nil =>
    by_cases hn : o ≠ 0 ∨ r = .unset
    · rw [List.nil_append, triLoop, if_pos hn]
      simp only [h]
      exact triLoop_succ c o r post (.inr ⟨rfl, hn⟩)
    · cases post <;> simp [triLoop, hn, withInserted]
  | cons p pre ih =>
    simp only [List.cons_append, List.length_cons]
    by_cases hn : o ≠ 0 ∨ r = .unset
    · rw [triLoop.eq_def, triLoop.eq_def]
      simp only [if_pos hn]
      cases p with
      | fail => simp [withInserted]
      | rep t' g0 g1 g2 g3 =>
        simp only
        split
        · rw [ih]; congr 1; omega
        · simp [withInserted]
    · simp [triLoop, hn, withInserted]
end DaliVerif.Proofs.AnswerTable
