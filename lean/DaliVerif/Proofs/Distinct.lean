namespace DaliVerif

/-- are the numbers of the list pairwise different?  `seen` is the set of numbers met so far, as a bit set: one
pass, where deciding `Nodup` compares all pairs -/
def distinctNat (seen : Nat) : List Nat → Bool
  | [] => true
  | k :: ks => !seen.testBit k && distinctNat (seen ||| 2 ^ k) ks

theorem distinctNat_nodup : ∀ (ks : List Nat) (seen : Nat), distinctNat seen ks = true →
    (∀ k ∈ ks, seen.testBit k = false) ∧ ks.Nodup
  | [], _, _ => ⟨by simp, .nil⟩
  | k :: ks, seen, h => by
    simp only [distinctNat, Bool.and_eq_true, Bool.not_eq_true'] at h
    obtain ⟨hfresh, hnd⟩ := distinctNat_nodup ks _ h.2
    have hk : ∀ j ∈ ks, seen.testBit j = false ∧ j ≠ k := fun j hj => by
      have := hfresh j hj
      simp only [Nat.testBit_or, Nat.testBit_two_pow, Bool.or_eq_false_iff, decide_eq_false_iff_not] at this
      exact ⟨this.1, fun e => this.2 e.symm⟩
    refine ⟨fun j hj => ?_, List.nodup_cons.mpr ⟨fun hm => (hk k hm).2 rfl, hnd⟩⟩
    rcases List.mem_cons.mp hj with rfl | hj
    · exact h.1
    · exact (hk j hj).1

end DaliVerif
