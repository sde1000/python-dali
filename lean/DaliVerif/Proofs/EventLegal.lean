import DaliVerif.Proofs.ConstructLegal
import DaliVerif.Proofs.DecodeEvent
/-!
# C02: event constructors — keyword scheme selection and legality

`_Event.__init__` is modelled as `constructEventSrc` (which keywords were
given) followed by the frame assembly `Cmd.encode` (`eventSrcToFrame` + the
event data).  Here: the exact decision table of the first, and that a frame
assembly which succeeds implies every field was in range (`SrcOK`, data width).
-/
set_option linter.unusedSimpArgs false
namespace DaliVerif.Cmd
open Frame Spec

/-- the keyword combinations `_Event.__init__` accepts are exactly the five addressing schemes of part 103 Table 3 -/
theorem constructEventSrc_spec (sa inum ig dg : Option Nat) (src : EventSrc) :
    constructEventSrc sa inum ig dg = .ok src ↔
      (∃ a, sa = some a ∧ inum = none ∧ ig = none ∧ dg = none ∧ src = .device a) ∨
      (∃ a n, sa = some a ∧ inum = some n ∧ ig = none ∧ dg = none ∧ src = .deviceInstance a n) ∨
      (∃ g, sa = none ∧ inum = none ∧ ig = none ∧ dg = some g ∧ src = .deviceGroup g) ∨
      (∃ g, sa = none ∧ inum = none ∧ ig = some g ∧ dg = none ∧ src = .instanceGroup g) ∨
      (∃ n, sa = none ∧ inum = some n ∧ ig = none ∧ dg = none ∧ src = .inst n) := by
  cases sa <;> cases inum <;> cases ig <;> cases dg <;>
    simp [constructEventSrc] <;> (try constructor) <;> (try intro h) <;> (try exact h.symm) <;> (try exact h ▸ rfl)

theorem constructEventSrc_error (sa inum ig dg : Option Nat) (e : PyErr)
    (h : constructEventSrc sa inum ig dg = .error e) : e = .ValueError := by
  cases sa <;> cases inum <;> cases ig <;> cases dg <;> simp [constructEventSrc] at h <;> exact h.symm

theorem newFrame_inv (n x : Nat) (f : Frame) (h : newFrame n x = .ok f) : Frame.Inv f ∧ f.bits = n :=
  ⟨Frame.new_inv h, newFrame_bits n x f h⟩

theorem setSlice_inv (f f' : Frame) (hi lo : Nat) (v : Int) (hlo : lo ≤ hi) (hhi : hi < f.bits)
    (h : setSlice f hi lo v = .ok f') : 0 ≤ v ∧ v < (2 ^ (hi + 1 - lo) : Int) := by
  rw [setSlice_eq f hi lo v hlo hhi] at h
  split at h
  · assumption
  · cases h

theorem mkDeviceShort_inv (sa : Nat) (a : Addr) (h : Addr.mkDeviceShort (natVal sa) = .ok a) :
    sa ≤ 63 ∧ a = .deviceShort sa := by
  unfold Addr.mkDeviceShort Addr.mkNumbered natVal at h
  simp only [PyVal.asInt?] at h
  split at h
  · contradiction
  · rename_i hr
    injection h with h
    simp only [Bool.or_eq_true, decide_eq_true_eq, not_or] at hr
    refine ⟨by omega, ?_⟩
    rw [← h]; simp

theorem addr_addToFrame_inv (a : Addr) (f f' : Frame) (hf : Frame.Inv f) (hv : a.Valid)
    (h : a.addToFrame f = .ok f') : Frame.Inv f' ∧ f'.bits = f.bits := by
  obtain ⟨bits, d⟩ := f
  obtain rfl : bits = a.frameSize := addToFrame_ok_kind a _ f' h
  rw [Addr.addToFrame_eq a hv d hf.2] at h
  cases h
  -- the address byte on top of what the frame held below it
  have hb := Addr.addrByte_lt a hv
  refine ⟨⟨hf.1, ?_⟩, rfl⟩
  cases hg : a.isGear <;> simp only [Addr.frameSize, hg, if_true, if_false, Bool.false_eq_true] <;> omega

theorem eventSrcToFrame_inv (f f' : Frame) (t : Int) (src : EventSrc) (hf : Frame.Inv f) (hb : f.bits = 24)
    (h : eventSrcToFrame f t src = .ok f') :
    SrcOK src ∧ (srcHasType src = true → 0 ≤ t ∧ t ≤ 31) ∧ Frame.Inv f' ∧ f'.bits = 24 := by
  cases src <;> simp only [eventSrcToFrame] at h <;>
    obtain ⟨f1, h1, h⟩ := bind_ok _ _ _ h <;>
    obtain ⟨f2, h2, h⟩ := bind_ok _ _ _ h <;>
    obtain ⟨f3, h3, h⟩ := bind_ok _ _ _ h <;>
    obtain ⟨f4, h4, h⟩ := bind_ok _ _ _ h <;>
    have i1 := setItem_inv hf h1 <;>
    have i2 := setItem_inv i1.1 h2 <;>
    have i3 := setItem_inv i2.1 h3
  case device | deviceInstance =>
    -- one field write, two bit writes, then the short address
    have r1 := setSlice_inv f f1 14 10 _ (by omega) (by omega) h1
    obtain ⟨hsa, rfl⟩ := mkDeviceShort_inv _ f4 h4
    have i5 := addr_addToFrame_inv (.deviceShort _) f3 f' i3.1 hsa h
    simp only [SrcOK, Nat.reducePow, Nat.reduceAdd, Nat.reduceSub] at r1 ⊢
    exact ⟨by omega, fun hh => by cases hh <;> omega, i5.1, by omega⟩
  case deviceGroup | instanceGroup | inst =>
    -- two field writes, then three bit writes
    have r1 := setSlice_inv f f1 _ _ _ (by omega) (by omega) h1
    have r2 := setSlice_inv f1 f2 _ _ _ (by omega) (by omega) h2
    have i4 := setItem_inv i3.1 h4
    have i5 := setItem_inv i4.1 h
    simp only [SrcOK, Nat.reducePow, Nat.reduceAdd, Nat.reduceSub] at r1 r2 ⊢
    exact ⟨by omega, fun _ => by omega, i5.1, by omega⟩

/-- the common head of the event constructors: a fresh 24-bit frame, the source writes, then the class's own
data writes `k` -/
theorem eventHead_inv {x : Nat} {t : Int} {src : EventSrc} {k : Frame → PyRes Frame} {f : Frame}
    (h : (newFrame 24 x >>= fun f0 => eventSrcToFrame f0 t src >>= k) = .ok f) :
    ∃ f1, (SrcOK src ∧ (srcHasType src = true → 0 ≤ t ∧ t ≤ 31) ∧ Frame.Inv f1 ∧ f1.bits = 24) ∧
      k f1 = .ok f := by
  obtain ⟨f0, h0, h⟩ := bind_ok _ _ _ h
  obtain ⟨f1, h1, h⟩ := bind_ok _ _ _ h
  obtain ⟨i0, b0⟩ := newFrame_inv _ _ _ h0
  exact ⟨f1, eventSrcToFrame_inv f0 f1 t src i0 b0 h1, h⟩

theorem setData_inv (f1 f : Frame) (v : Nat) (hf : Frame.Inv f1) (hb : f1.bits = 24)
    (h : setSlice f1 9 0 v = .ok f) : v < 1024 ∧ Frame.Inv f := by
  have := (setSlice_inv f1 f 9 0 v (by omega) (by omega) h).2
  exact ⟨by simp at this; omega, (setItem_inv hf h).1⟩

/-- the data-range part of an event object's legality -/
def BodyOK : EventBody → Prop
  | .light v => v < 1024
  | .unknown d => d < 1024
  | _ => True

/-- C02 for events: a frame assembly that succeeds had every field in range; nothing is truncated into the frame -/
theorem event_accepted_fields (cls : String) (t : Nat) (src : EventSrc) (body : EventBody) (f : Frame)
    (h : encode (.event cls t src body) = .ok f) :
    SrcOK src ∧ (srcHasType src = true → t ≤ 31) ∧ BodyOK body := by
  simp only [encode] at h
  obtain ⟨f1, i1, h⟩ := eventHead_inv h
  refine ⟨i1.1, fun hh => by have := (i1.2.1 hh).2; omega, ?_⟩
  cases body with
  | light v => exact (setData_inv f1 f v i1.2.2.1 i1.2.2.2 h).1
  | unknown d => exact (setData_inv f1 f d i1.2.2.1 i1.2.2.2 h).1
  | _ => trivial

theorem unknownEvent_accepted_fields (t : Int) (src : EventSrc) (data : Nat) (f : Frame)
    (h : encode (.unknownEvent t src data) = .ok f) :
    SrcOK src ∧ (srcHasType src = true → 0 ≤ t ∧ t ≤ 31) ∧ data < 1024 := by
  obtain ⟨f1, i1, h⟩ := eventHead_inv h
  exact ⟨i1.1, i1.2.1, (setData_inv f1 f data i1.2.2.1 i1.2.2.2 h).1⟩

theorem ambiguous_accepted_is_legal (T : Tables) (sa inum data : Nat) (f : Frame)
    (h : encode (.ambiguous sa inum data) = .ok f) : WF T (.ambiguous sa inum data) := by
  obtain ⟨f1, i1, h⟩ := eventHead_inv h
  exact ⟨i1.1.1, i1.1.2, (setData_inv f1 f data i1.2.2.1 i1.2.2.2 h).1⟩

/-- with the class facts the registry supplies, the accepted event object is in
the legal set `WF` (so `decode_construct` applies to it) -/
theorem event_accepted_is_legal (T : Tables) (cls : String) (t : Nat) (src : EventSrc) (body : EventBody)
    (f : Frame) (h : encode (.event cls t src body) = .ok f) (ht : t ≤ 31)
    (hcls : match body with
       | .pushbutton pc => cls = pc.name ∧ (pc.info, pc) ∈ T.pushEvents ∧
           ∃ et, (t, et) ∈ T.instanceTypes ∧ et.kind = .pushbutton
       | .occupancy .. => ∃ et, (t, et) ∈ T.instanceTypes ∧ et.kind = .occupancy ∧ et.name = cls
       | .light _ => ∃ et, (t, et) ∈ T.instanceTypes ∧ et.kind = .light ∧ et.name = cls
       | .unknown _ => False) :
    WF T (.event cls t src body) := by
  have hf := event_accepted_fields cls t src body f h
  refine ⟨hf.1, ht, ?_⟩
  cases body with
  | pushbutton pc => exact hcls
  | occupancy a b c d => exact hcls
  | light v => exact ⟨hf.2.2, hcls⟩
  | unknown d => exact hcls

end DaliVerif.Cmd
