import DaliVerif.Model.Response
import DaliVerif.Spec.Response
import DaliVerif.Spec.ResponseTable
/-!
# Lemmas for C06: from per-class, decidable well-formedness facts to
faithfulness on every bus outcome

`WellFormed c` collects what has to be true of one row of the generated
response table (known implementors, category ↔ implementor of `value`, named
bits exposed, …).  `holds c o` is the property's statement for one class and
one outcome, phrased with the predicates of `Spec/Response.lean` applied to
the model's results.  `holds_of_wellFormed` proves `holds` for **every**
outcome from `WellFormed` alone, with no enumeration of outcomes.
-/
namespace DaliVerif.Resp
open DaliVerif DaliVerif.Spec.Resp

theorem statusLoop_zipIdx (bits : List String) (b k : Nat) :
    statusLoop bits (b >>> k) =
      (bits.zipIdx k).filterMap fun (n, i) => if b.testBit i ∧ n ≠ "" then some n else none := by
  induction bits generalizing k with
  | nil => simp [statusLoop]
  | cons n rest ih =>
    have hshift : b >>> k / 2 = b >>> (k + 1) := by
      rw [Nat.shiftRight_succ]
    have htb : (b >>> k % 2 = 1) ↔ b.testBit k = true := by
      rw [Nat.testBit_eq_decide_div_mod_eq, Nat.shiftRight_eq_div_pow]; simp
    simp only [statusLoop, List.zipIdx_cons, List.filterMap_cons, hshift, ih, htb]
    by_cases h1 : b.testBit k = true <;> by_cases h2 : n = "" <;> simp [h1, h2]

theorem statusLoop_eq (bits : List String) (b : Nat) : statusLoop bits b = setBitNames bits b := by
  have := statusLoop_zipIdx bits b 0
  simpa [setBitNames] using this

/-- every implementor of the class is one the model has semantics for -/
def known (c : RespClass) : Bool :=
  c.ctorBase &&
  (match c.value with | .custom _ => false | _ => true) &&
  (match c.str with | .custom _ => false | _ => true) &&
  (match c.status with | .custom _ => false | _ => true) &&
  (match c.error with | .custom _ => false | _ => true) &&
  (match c.getattr with | .custom _ => false | _ => true) &&
  c.extras.all (fun e => match e.2 with | .custom _ => false | _ => true)

/-- the named bits of a bitmap class are exposed: every named entry of `bits`
has a key in `_bit_properties` that maps to its index, is found by lookup
(no duplicate key hides it), is not shadowed by an extra property, and the
index is inside the 8-bit frame -/
def bitPropsOK (c : RespClass) : Bool :=
  (List.range c.bits.length).all fun i =>
    c.bits.getD i "" == "" ||
    c.bitProps.any fun p => p.2 == i && i < 8 && lookupProp p.1 c.bitProps == some i &&
      lookupExtra p.1 c.extras == none

/-- `__str__` implementations that return / re-raise what `value` gives are
only combined with a `value` that never raises -/
def strSafe (c : RespClass) : Bool :=
  match c.str with
  | .fastFade | .outputLevel =>
    (match c.value with | .numeric | .numericMask | .yesNo => true | _ => false)
  | .bitmap => c.status == .bitmap
  | .fadeTimeRate =>
    lookupExtra "fade_time" c.extras == some .fadeTime &&
    lookupExtra "fade_rate" c.extras == some .fadeRate
  | _ => true

/-- the per-class facts (decidable, evaluated on `Gen.responses` on every run)
from which faithfulness follows for *every* outcome -/
def WellFormed (c : RespClass) : Bool :=
  known c && strSafe c &&
  (match catOf c with
   | .yesNo => c.value == .yesNo
   | .numeric => c.value == .numeric
   | .numericMask => c.value == .numericMask
   | .generic => c.value == .base
   | .bitmap => c.value == .base && c.status == .bitmap && c.getattr == .bitmap && bitPropsOK c &&
       !c.bits.contains framingErrorText
   | .enum => c.value == .enum && !c.errorAcceptable
   | .enumMask => c.value == .assignedColour && !c.errorAcceptable && !c.expected &&
       (memberValues c).all (· ≤ 6))

def valueHolds (c : RespClass) (o : Outcome) : Bool :=
  match respValue c o with | some r => valueOK c o r | none => false

def strHolds (c : RespClass) (o : Outcome) : Bool :=
  match respStr c o with | some r => strOK r | none => false

def statusHolds (c : RespClass) (o : Outcome) : Bool :=
  match respStatus c o with | some r => statusOK c o r | none => false

def bitsHold (c : RespClass) (o : Outcome) : Bool :=
  (List.range c.bits.length).all fun i =>
    c.bits.getD i "" == "" ||
    c.bitProps.any fun p => p.2 == i &&
      (match respAttr c p.1 o with | some r => bitOK o i r | none => false)

/-- the property's statement for one class and one outcome, on the model -/
def holds (c : RespClass) (o : Outcome) : Bool :=
  valueHolds c o && strHolds c o &&
  (catOf c != .bitmap || (statusHolds c o && bitsHold c o))

theorem memberValues_eq (c : RespClass) : Resp.memberValues c = Spec.Resp.memberValues c := rfl

theorem genericOK_baseValue (e a : Bool) (o : Outcome) :
    genericOK e a o (baseValue e a o) = true := by
  cases o <;> cases e <;> cases a <;> simp [genericOK, baseValue]

theorem numericMaskValue_ok (b : Fin 256) :
    numericMaskValue (.ok b) = if b.val = 255 then .str "MASK" else .int b.val := by
  show (match Val.int b.val with | .int 255 => Val.str "MASK" | v => v) = _
  split
  · next h => injection h with h; rw [if_pos h]
  · next h => rw [if_neg fun hb => h (congrArg _ hb)]

theorem enumValue_ok (c : RespClass) (b : Fin 256) :
    enumValue c (.ok b) =
      if b.val ∈ Spec.Resp.memberValues c then .ok (.enum b.val) else .error .ValueError := rfl

/-- An enumerated response that does not accept framing errors treats silence and a garbled
answer as `Response.value` does (one that accepts them would look the garbled byte up among
the members). -/
theorem enumValue_of_not_ok (c : RespClass) (hea : c.errorAcceptable = false) (o : Outcome)
    (ho : ∀ b, o ≠ .ok b) : enumValue c o = baseValue c.expected c.errorAcceptable o := by
  cases o with
  | ok b => exact absurd rfl (ho b)
  | none => cases he : c.expected <;> simp [enumValue, baseValue, he]
  | err b => simp [enumValue, baseValue, hea]

theorem valueHolds_of_wellFormed (c : RespClass) (h : WellFormed c = true) (o : Outcome) :
    valueHolds c o = true := by
  unfold WellFormed at h
  simp only [Bool.and_eq_true] at h
  obtain ⟨-, h⟩ := h
  unfold valueHolds valueOK
  cases hc : catOf c <;> simp only [hc, Bool.and_eq_true, beq_iff_eq, Bool.not_eq_true'] at h ⊢
  · simp only [respValue, h, genericOK_baseValue]
  · simp only [respValue, h]; cases o <;> rfl
  · simp only [respValue, h]; cases o <;> simp [numericValue, nonIntMarker, isInteger]
  · simp only [respValue, h]
    cases o with
    | ok b => by_cases hb : b.val = 255 <;> simp [numericMaskValue_ok, hb]
    | _ => rfl
  · simp only [respValue, h.1.1.1.1, genericOK_baseValue]
  · simp only [respValue, h.1]
    cases o with
    | ok b => by_cases hm : b.val ∈ Spec.Resp.memberValues c <;> simp [enumValue_ok, hm]
    | _ => simp [enumValue_of_not_ok c h.2, genericOK_baseValue]
  · obtain ⟨⟨⟨hv, hea⟩, hex⟩, hmem⟩ := h
    simp only [respValue, hv]
    cases o with
    | none => simp [assignedColourValue, hex, genericOK]
    | err b => simp [assignedColourValue, enumValue_of_not_ok c hea, genericOK_baseValue]
    | ok b =>
      simp only [assignedColourValue, enumValue_ok]
      by_cases hm : b.val ∈ Spec.Resp.memberValues c
      · -- a member is at most 6, so neither "(error)" nor "MASK" gets in its way
        have : b.val ≤ 6 := of_decide_eq_true (List.all_eq_true.mp hmem _ hm)
        simp [hm, show ¬(6 < b.val ∧ b.val < 255) by omega, show b.val ≠ 255 by omega]
      · by_cases h2 : b.val = 255
        · simp [h2, h2 ▸ hm]
        · by_cases h1 : 6 < b.val ∧ b.val < 255 <;> simp [hm, h1, h2, nonIntMarker, isInteger]

theorem bitAt_noRaise (i : Nat) (o : Outcome) :
    bitAt i o ≠ .error .MissingResponse ∧ bitAt i o ≠ .error .ResponseError := by
  cases o <;> simp [bitAt] <;> split <;> simp

theorem respGetattr_noRaise (c : RespClass) (n : String) (o : Outcome) (r : PyRes Val)
    (h : respGetattr c n o = some r) : r ≠ .error .MissingResponse ∧ r ≠ .error .ResponseError := by
  unfold respGetattr at h
  split at h
  · injection h with h; subst h
    unfold bitmapGetattr
    split
    · exact bitAt_noRaise _ _
    · simp
  · injection h with h; subst h; simp
  · contradiction

theorem strOK_baseStr (r : PyRes Val) : strOK (baseStr r) = true := by
  cases r with
  | ok v => rfl
  | error e => cases e <;> rfl

theorem strOK_returnAsStr (v : Val) : strOK (returnAsStr v) = true := by cases v <;> rfl

theorem respValue_isSome (c : RespClass) (h : known c = true) (o : Outcome) :
    ∃ r, respValue c o = some r := by
  cases hv : c.value with
  | custom q => simp [known, hv] at h
  | _ => simp only [respValue, hv]; exact ⟨_, rfl⟩

/-- the three implementors of `value` that never raise -/
theorem respValue_ok_of_marker (c : RespClass) (o : Outcome)
    (h : (match c.value with | .numeric | .numericMask | .yesNo => true | _ => false) = true) :
    ∃ v, respValue c o = some (.ok v) := by
  unfold respValue; split at h <;> simp_all

theorem strHolds_of_wellFormed (c : RespClass) (h : WellFormed c = true) (o : Outcome) :
    strHolds c o = true := by
  unfold WellFormed at h
  simp only [Bool.and_eq_true] at h
  obtain ⟨⟨hk, hs⟩, -⟩ := h
  obtain ⟨rv, hrv⟩ := respValue_isSome c hk o
  have hbase : (match (respValue c o).map baseStr with | some r => strOK r | none => false) = true := by
    simp only [hrv, Option.map_some, strOK_baseStr]
  unfold strSafe at hs
  unfold strHolds respStr
  cases hq : c.str with
  | custom q => simp [known, hq] at hk
  | base => exact hbase
  | bitmap =>
    simp only [hq, beq_iff_eq] at hs
    simp only [hs]
    cases o <;> rfl
  | deviceType =>
    cases o with
    | ok b =>
      dsimp only
      cases lookupType b.val c.types with
      | some t => rfl
      | none => exact hbase
    | _ => exact hbase
  | fadeTimeRate =>
    simp only [hq, Bool.and_eq_true, beq_iff_eq] at hs
    simp only [respAttr, hs.1, hs.2, extraValue]
    rfl
  | fastFade | outputLevel =>
    -- `value` is an integer or a marker string: every branch renders it or is a `TypeError`
    obtain ⟨v, hv⟩ := respValue_ok_of_marker c o (by simpa only [hq] using hs)
    simp only [hv, Option.map_some]
    cases v.isInt with
    | some n =>
      dsimp only
      split
      · rfl
      · split <;> rfl
    | none => exact strOK_returnAsStr v

theorem bitOK_bitAt (o : Outcome) (i : Nat) (hi : i < 8) : bitOK o i (bitAt i o) = true := by
  cases o <;> simp [bitOK, bitAt, hi]

theorem bitmap_holds_of_wellFormed (c : RespClass) (h : WellFormed c = true)
    (hc : catOf c = .bitmap) (o : Outcome) : statusHolds c o = true ∧ bitsHold c o = true := by
  unfold WellFormed at h
  simp only [hc, Bool.and_eq_true, beq_iff_eq, Bool.not_eq_true'] at h
  obtain ⟨-, ⟨⟨⟨⟨-, hst⟩, hga⟩, hbp⟩, hfe⟩⟩ := h
  constructor
  · unfold statusHolds respStatus
    simp only [hst]
    cases o with
    | none => cases he : c.expected <;> simp [bitmapStatus, statusOK, he]
    | ok b => simp [bitmapStatus, statusOK, statusLoop_eq]
    | err b =>
      simp only [bitmapStatus, statusOK, List.all_cons, List.all_nil, Bool.and_true, hfe]
      rfl
  · unfold bitsHold
    unfold bitPropsOK at hbp
    rw [List.all_eq_true] at hbp ⊢
    intro i hi
    have := hbp i hi
    rw [Bool.or_eq_true] at this ⊢
    rcases this with h0 | h1
    · exact Or.inl h0
    · right
      rw [List.any_eq_true] at h1 ⊢
      obtain ⟨p, hp, hpp⟩ := h1
      refine ⟨p, hp, ?_⟩
      simp only [Bool.and_eq_true, beq_iff_eq, decide_eq_true_eq] at hpp
      obtain ⟨⟨⟨hpi, hi8⟩, hlk⟩, hex⟩ := hpp
      simp only [Bool.and_eq_true, beq_iff_eq]
      refine ⟨hpi, ?_⟩
      simp only [respAttr, hex, respGetattr, hga, bitmapGetattr, hlk]
      exact bitOK_bitAt o i hi8

theorem holds_of_wellFormed (c : RespClass) (h : WellFormed c = true) (o : Outcome) :
    holds c o = true := by
  unfold holds
  rw [Bool.and_eq_true, Bool.and_eq_true]
  refine ⟨⟨valueHolds_of_wellFormed c h o, strHolds_of_wellFormed c h o⟩, ?_⟩
  by_cases hc : catOf c = .bitmap
  · have := bitmap_holds_of_wellFormed c h hc o
    simp [this.1, this.2]
  · simp [hc]

/-- what the standard fixes about a class, read off a row of the generated table -/
def project (c : RespClass) : Spec.Resp.Row :=
  { key := c.module ++ ":" ++ c.name, cat := catOf c, expected := c.expected,
    errorAcceptable := c.errorAcceptable, pinned := false, bits := c.bits, members := c.members,
    types := c.types }

/-- a row of the transcribed table without its provenance mark -/
def unpin (r : Spec.Resp.Row) : Spec.Resp.Row := { r with pinned := false }

end DaliVerif.Resp
