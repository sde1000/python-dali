import DaliVerif.Model.MemValue
import DaliVerif.Spec.MemoryLayout
/-!
# Lemmas for C11: the model's interpretation equals the reference interpretation

`rowOf v` reads off a generated value the row of the layout table it corresponds to (`none`
when its implementors do not form an encoding kind the specification knows, `kindOf`, or its
data is not of the documented shape, `shapeOK`).  `interpret_eq_spec`: whenever
`rowOf v = some r`, the model of the library's `check_raw … or raw_to_value` returns, for
**every** raw string of the right length, exactly `Spec.Mem.interpret r raw` — never raises.
-/
namespace DaliVerif.Mem
open DaliVerif DaliVerif.Spec.Mem

theorem foldl_be (l : List Nat) (acc : Nat) :
    l.foldl (fun a b => a * 256 + b) acc = acc * 256 ^ l.length + be l := by
  induction l generalizing acc with
  | nil => simp [be]
  | cons b rest ih =>
    simp only [List.foldl_cons, ih, be, List.length_cons, Nat.pow_succ]
    rw [Nat.add_mul, Nat.mul_assoc, Nat.mul_comm 256, Nat.add_assoc]

theorem beNat_eq_be (l : List Nat) : beNat l = be l := by
  simp [beNat, foldl_be]

theorem fromBytes_unsigned (l : List Nat) : fromBytes false l = (be l : Int) := by
  simp [fromBytes, beNat_eq_be]

theorem fromBytes_signed_byte (sb : Nat) : fromBytes true [sb] = signedByte sb := by
  unfold fromBytes signedByte beNat
  by_cases h : 128 ≤ sb <;> simp [h]

theorem untilNul_eq (l : List Nat) : untilNul l = cString l := by
  induction l with
  | nil => rfl
  | cons b rest ih => simp [untilNul, cString, ih]

theorem lightDistName_eq : ∀ b : Nat, Mem.lightDistName b = Spec.Mem.lightDistName b
  | 0 | 1 | 2 | 3 | 4 | 5 => rfl
  | _ + 6 => rfl

theorem not_decide_lt (a m : Int) : (!decide (a < m)) = decide (m ≤ a) := by
  simp only [← Int.not_lt, decide_not]

theorem not_decide_gt (a m : Int) : (!decide (a > m)) = decide (a ≤ m) := not_decide_lt m a

theorem some_beq_comm (a p : List Nat) : (some a == some p) = (p == a) := by
  rw [Option.some_beq_some, BEq.comm]

def contiguous : List Loc → Bool
  | [] => true
  | [_] => true
  | a :: b :: rest => b.addr == a.addr + 1 && contiguous (b :: rest)

def kindOf (v : MemValue) : Option Kind :=
  match v.r2v, v.valid, v.check with
  | .plain, .always, .base => some .raw
  | .numeric, .numeric, .base => some .number
  | .fixedScale, .numeric, .base =>
    if v.scaleIsDecimal then some (.decimal v.scaleMant v.scaleExp)
    else if v.scaleExp = 0 then some (.times v.scaleMant) else none
  | .scaled, .numeric, .scaled => some .unitScaled
  | .string, .always, .base => some .text
  | .binary, .binary, .base => some .flagBit
  | .temperature, .numeric, .base => some (.temperature v.offset)
  | .version, .numeric, .base => some .version
  | .cct, .cct, .base => some .cct
  | .lightDist, .always, .base => some .lightDist
  | _, _, _ => none

/-- number of bytes compared with MASK / TMASK -/
def payloadLen (k : Kind) (width : Nat) : Nat :=
  match k with
  | .unitScaled => width - 1
  | _ => width

def shapeOK (v : MemValue) (k : Kind) : Bool :=
  let width := v.locs.length
  let plen := payloadLen k width
  contiguous v.locs && !v.signed && v.fromListBase &&
  v.mask == (if v.maskSupported then some (allOnes plen) else none) &&
  v.tmask == (if v.tmaskSupported then some (allOnesMinusOne plen) else none) &&
  v.maskLengthAdjust == (match k with | .unitScaled => -1 | _ => 0) &&
  (match k with | .unitScaled => decide (2 ≤ width) | _ => true)

def rowOf (v : MemValue) : Option Row :=
  match kindOf v, v.locs with
  | some k, l :: _ =>
    if shapeOK v k
    then some { bank := v.bank, name := v.name, first := l.addr, width := v.locs.length,
                access := v.locs.map (·.type), kind := k, mask := v.maskSupported,
                tmask := v.tmaskSupported, min := v.minValue, max := v.maxValue, pinned := false }
    else none
  | _, _ => none

theorem numericValid_eq (v : MemValue) (r : Row) (raw : List Nat) (hs : v.signed = false)
    (hmin : r.min = v.minValue) (hmax : r.max = v.maxValue) :
    numericValid v raw = inRange r (be raw) := by
  unfold numericValid inRange
  rw [hs, fromBytes_unsigned, hmin, hmax]
  cases v.minValue <;> cases v.maxValue <;> simp only [not_decide_lt, Bool.true_and, Bool.and_true]

/-- `MemoryValue.check_raw` with the mask tests rewritten to the reference patterns -/
theorem checkRawBase_eq (v : MemValue) (p : List Nat) (plen : Nat) (hp : p.length = plen)
    (hm : v.mask = (if v.maskSupported then some (allOnes plen) else none))
    (ht : v.tmask = (if v.tmaskSupported then some (allOnesMinusOne plen) else none)) :
    checkRawBase v p =
      if v.maskSupported && p == allOnes p.length then some (.ok (some .MASK))
      else if v.tmaskSupported && p == allOnesMinusOne p.length then some (.ok (some .TMASK))
      else match isValid v p with
        | none => none
        | some (.error e) => some (.error e)
        | some (.ok true) => some (.ok none)
        | some (.ok false) => some (.ok (some .Invalid)) := by
  unfold checkRawBase
  rw [hm, ht, hp]
  cases v.maskSupported <;> cases v.tmaskSupported <;>
    simp only [Bool.true_and, Bool.false_and, if_true, if_false, some_beq_comm, Bool.false_eq_true] <;> rfl

/-- the facts `rowOf v = some r` packs -/
structure RowFacts (v : MemValue) (r : Row) : Prop where
  kind : kindOf v = some r.kind
  width : r.width = v.locs.length
  signed : v.signed = false
  fromList : v.fromListBase = true
  mask : v.mask = (if v.maskSupported then some (allOnes (payloadLen r.kind r.width)) else none)
  tmask : v.tmask = (if v.tmaskSupported then some (allOnesMinusOne (payloadLen r.kind r.width)) else none)
  rmask : r.mask = v.maskSupported
  rtmask : r.tmask = v.tmaskSupported
  rmin : r.min = v.minValue
  rmax : r.max = v.maxValue
  wide : r.kind = .unitScaled → 2 ≤ r.width
  pos : 1 ≤ r.width

theorem rowFacts (v : MemValue) (r : Row) (h : rowOf v = some r) : RowFacts v r := by
  unfold rowOf at h
  split at h
  · split at h
    · rename_i k l rest hk hl hc
      cases h
      simp only [shapeOK, Bool.and_eq_true, Bool.not_eq_true', beq_iff_eq] at hc
      obtain ⟨⟨⟨⟨⟨⟨-, hs⟩, hf⟩, hm⟩, ht⟩, -⟩, hw⟩ := hc
      exact ⟨hk, rfl, hs, hf, hm, ht, rfl, rfl, rfl, rfl, fun hku => by cases hku; simpa using hw,
        by simp [hl]⟩
    · cases h
  · cases h

theorem rowOf_bank_name {v : MemValue} {r : Row} (h : rowOf v = some r) :
    r.bank = v.bank ∧ r.name = v.name := by
  unfold rowOf at h
  split at h
  · split at h
    · cases h
      exact ⟨rfl, rfl⟩
    · cases h
  · cases h

theorem payloadLen_other (k : Kind) (w : Nat) (hk : k ≠ .unitScaled) : payloadLen k w = w := by
  cases k <;> simp_all [payloadLen]

theorem payload_other (r : Row) (raw : List Nat) (hk : r.kind ≠ .unitScaled) : payload r raw = raw := by
  unfold payload; cases hkk : r.kind <;> simp_all

theorem scaleOK_other (r : Row) (raw : List Nat) (hk : r.kind ≠ .unitScaled) : scaleOK r raw = true := by
  unfold scaleOK; cases hkk : r.kind <;> simp_all

/-- what is left of `interpret` once MASK and TMASK are excluded -/
def afterMasks (v : MemValue) (p raw : List Nat) : Option (PyRes MVal) :=
  match isValid v p with
  | none => none
  | some (.error e) => some (.error e)
  | some (.ok true) => rawToValue v raw
  | some (.ok false) => some (.ok (.flag .Invalid))

theorem afterMasks_ok {v : MemValue} {p : List Nat} {b : Bool} (h : isValid v p = some (.ok b))
    (raw : List Nat) :
    afterMasks v p raw = if b = true then rawToValue v raw else some (.ok (.flag .Invalid)) := by
  rw [afterMasks, h]
  cases b <;> rfl

/-- the part of `interpret` that all kinds share: with a legal scale byte (if there is one)
`check_raw` is the base check on the payload `p`, and its MASK / TMASK tests are the reference's -/
theorem interp_masks (v : MemValue) (r : Row) (F : RowFacts v r) (raw p : List Nat)
    (hp : payload r raw = p) (hpl : p.length = payloadLen r.kind r.width)
    (hs : scaleOK r raw = true) (hchk : checkRaw v raw = checkRawBase v p)
    (hdec : afterMasks v p raw = some (.ok (decode r raw))) :
    Mem.interpret v raw = some (.ok (Spec.Mem.interpret r raw)) := by
  rw [Mem.interpret, Spec.Mem.interpret, hchk, checkRawBase_eq v p _ hpl F.mask F.tmask, hs, hp,
    F.rmask, F.rtmask]
  cases (v.maskSupported && p == allOnes p.length)
  · cases (v.tmaskSupported && p == allOnesMinusOne p.length)
    · simp only [Bool.not_true, Bool.false_eq_true, if_false]
      rw [← hdec, afterMasks]
      cases isValid v p with
      | none => rfl
      | some x =>
        cases x with
        | error e => rfl
        | ok b => cases b <;> rfl
    · rfl
  · rfl

theorem interp_base (v : MemValue) (r : Row) (F : RowFacts v r) (raw : List Nat)
    (hlen : raw.length = r.width) (hc : v.check = .base) (hk : r.kind ≠ .unitScaled)
    (hdec : afterMasks v raw raw = some (.ok (decode r raw))) :
    Mem.interpret v raw = some (.ok (Spec.Mem.interpret r raw)) :=
  interp_masks v r F raw raw (payload_other r raw hk) (by rw [payloadLen_other _ _ hk, hlen])
    (scaleOK_other r raw hk) (by unfold checkRaw; rw [hc]) hdec

/-- `kindOf` read backwards: the implementors and class data each encoding kind stands for -/
theorem kindOf_eq_some {v : MemValue} {k : Kind} (h : kindOf v = some k) :
    match k with
    | .raw => v.check = .base ∧ v.valid = .always ∧ v.r2v = .plain
    | .number => v.check = .base ∧ v.valid = .numeric ∧ v.r2v = .numeric
    | .times m => v.check = .base ∧ v.valid = .numeric ∧ v.r2v = .fixedScale ∧ v.scaleIsDecimal = false ∧
        v.scaleMant = m ∧ v.scaleExp = 0
    | .decimal m e => v.check = .base ∧ v.valid = .numeric ∧ v.r2v = .fixedScale ∧ v.scaleIsDecimal = true ∧
        v.scaleMant = m ∧ v.scaleExp = e
    | .unitScaled => v.check = .scaled ∧ v.valid = .numeric ∧ v.r2v = .scaled
    | .text => v.check = .base ∧ v.valid = .always ∧ v.r2v = .string
    | .flagBit => v.check = .base ∧ v.valid = .binary ∧ v.r2v = .binary
    | .temperature o => v.check = .base ∧ v.valid = .numeric ∧ v.r2v = .temperature ∧ v.offset = o
    | .version => v.check = .base ∧ v.valid = .numeric ∧ v.r2v = .version
    | .cct => v.check = .base ∧ v.valid = .cct ∧ v.r2v = .cct
    | .lightDist => v.check = .base ∧ v.valid = .always ∧ v.r2v = .lightDist := by
  unfold kindOf at h
  -- every arm gives back what it matched on; the `fixedScale` arm also its two tests
  split at h
  all_goals try split at h
  all_goals try split at h
  all_goals cases h
  all_goals simp [*]

theorem interpret_eq_spec (v : MemValue) (r : Row) (h : rowOf v = some r) (raw : List Nat)
    (hlen : raw.length = r.width) :
    Mem.interpret v raw = some (.ok (Spec.Mem.interpret r raw)) := by
  have F := rowFacts v r h
  obtain ⟨b, rest, rfl⟩ : ∃ b rest, raw = b :: rest := by
    cases raw with
    | nil => exact absurd (hlen ▸ F.pos) (by decide)
    | cons b rest => exact ⟨b, rest, rfl⟩
  generalize hraw : b :: rest = raw at hlen
  have base := interp_base v r F raw hlen
  have hnv := numericValid_eq v r raw F.signed F.rmin F.rmax
  have hfb := fromBytes_unsigned raw
  have hk := kindOf_eq_some F.kind
  cases r with | mk _ _ _ _ _ k =>
  cases k with
  | raw =>
    refine base hk.1 nofun ?_
    simp [afterMasks, isValid, rawToValue, decode, hk.2]
  -- the kinds that are a range-checked number put in some form
  | number | times m | decimal m e | temperature o | version =>
    refine base hk.1 nofun ?_
    simp only [afterMasks, isValid, rawToValue, decode, hk.2, hnv, F.signed, hfb, beNat_eq_be, versionText]
    cases inRange _ (be raw) <;> simp
  | unitScaled =>
    subst hraw
    by_cases hsc : 6 < b ∧ b < 250
    · simp [Mem.interpret, checkRaw, hk.1, Spec.Mem.interpret, scaleOK, hsc]
    · refine interp_masks v _ F _ rest rfl (by rw [payloadLen, ← hlen]; rfl) (by simp [scaleOK, hsc])
        (by unfold checkRaw; rw [hk.1]; exact if_neg hsc) ?_
      rw [afterMasks_ok (b := numericValid v rest) (by simp only [isValid, hk.2]),
        numericValid_eq v _ rest F.signed F.rmin F.rmax]
      simp only [rawToValue, hk.2, decode, List.tail_cons, List.headD_cons, List.take, beNat_eq_be,
        fromBytes_signed_byte]
      split <;> simp [*]
  | text =>
    refine base hk.1 nofun ?_
    simp only [afterMasks, isValid, rawToValue, decode, hk.2, untilNul_eq]
  | flagBit =>
    refine base hk.1 nofun ?_
    subst hraw
    simp only [afterMasks, isValid, rawToValue, decode, hk.2, List.headD_cons]
    by_cases h0 : b = 0
    · subst h0; simp
    · by_cases h1 : b = 1
      · subst h1; simp
      · have hb : (b == 0 || b == 1) = false := by simp [h0, h1]
        simp [hb, h0, h1]
  | cct =>
    refine base hk.1 nofun ?_
    simp only [afterMasks, isValid, rawToValue, decode, hk.2, hnv, F.signed, hfb]
    by_cases hs : raw = [0xff, 0xfe]
    · simp [hs]
    · simp only [hs, if_false]
      cases inRange _ (be raw) <;> simp
  | lightDist =>
    refine base hk.1 nofun ?_
    subst hraw
    simp only [afterMasks, isValid, rawToValue, decode, hk.2, List.headD_cons, lightDistName_eq]

end DaliVerif.Mem
