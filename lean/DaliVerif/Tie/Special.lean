import DaliVerif.Gen.SrcSpecial
import DaliVerif.Gen.Commands
import DaliVerif.Model.Decode
import DaliVerif.Proofs.AddressI
import DaliVerif.Proofs.DecodeBasics
/-!
# The special-command constructors, as translated from the source on this run, equal the model's `encode`

`_SpecialCommand.__init__` builds `ForwardFrame(16, (self._cmdval, self.param))` from a byte TUPLE; the source
translator reads `int.from_bytes(·, 'big')` as "each element in range(0, 256), then shift-and-or" (its `_IntShim`,
DESIGN II.8) and prints `Gen.SrcSpecial.*` with the class's code symbolic: the plain special commands with and
without parameter, `_ShortAddrSpecialCommand.__init__` (integer address and "MASK"), `Initialise.__init__`
(every combination of its two keywords) and the three 24-bit constructors of part 103
(`_SpecialDeviceCommand`, `…OneParam`, `…TwoParam`: three-byte tuples).  Here: for every class record and every argument (natural numbers of
any size — the range checks are on both sides) each definition is `Cmd.encode`'s frame or the same exception.
-/
namespace DaliVerif.Tie.Special
open DaliVerif DaliVerif.Frame DaliVerif.Cmd DaliVerif.AddressI

/-- one more byte at the low end, as the shift-and-or spells it -/
theorem shlOr (n c : Nat) (hc : c < 256) : pyOr (pyShl (n : Int) 8) (c : Int) = ((n * 256 + c : Nat) : Int) := by
  rw [← Int.cast_ofNat_Int, pyShl_ofNat, pyOr_ofNat, shiftLeft_or n (i := 8) (by omega)]

/-- two bytes, most significant first: what `int.from_bytes((a, b), 'big')` and the shift-and-or spell alike -/
theorem twoBytes (a b : Nat) (hb : b < 256) :
    pyOr (pyShl (pyOr 0 (a : Int)) 8) (b : Int) = ((ofBytesBE [a, b] : Nat) : Int) := by
  rw [← Int.cast_ofNat_Int (n := 0), pyOr_ofNat, shlOr _ b hb]
  simp [ofBytesBE]

theorem threeBytes (a b c : Nat) (hb : b < 256) (hc : c < 256) :
    pyOr (pyShl (pyOr (pyShl (pyOr 0 (a : Int)) 8) (b : Int)) 8) (c : Int) = ((ofBytesBE [a, b, c] : Nat) : Int) := by
  rw [twoBytes a b hb, shlOr _ c hc]
  simp [ofBytesBE]

/-- `Frame(n, (b0, b1, …))` on integers: `int.from_bytes`' element checks left to right, then `Frame.__init__`'s
sign and width checks of the assembled value `e` -/
def ofBytesI (n : Nat) (e : Int) : List Int → Except PyErr Int
  | [] => if e < 0 then .error .ValueError else if (bitLength e : Int) > n then .error .ValueError else .ok e
  | x :: l => if x < 0 then .error .ValueError else if x > 255 then .error .ValueError else ofBytesI n e l

theorem ofBytesI_all (n : Nat) (e : Int) (l : List Nat) :
    ofBytesI n e (l.map Nat.cast) = if l.all (· < 256) then ofBytesI n e [] else .error .ValueError := by
  induction l with
  | nil => rfl
  | cons x l ih =>
    simp only [List.map_cons, ofBytesI, ih, List.all_cons]
    grind

theorem new_ints (n : Nat) (l : List Nat) :
    Frame.new (.int n) (.ints (l.map Nat.cast)) =
      if l.all (· < 256) then Frame.new (.int n) (.int (ofBytesBE l : Nat)) else .error .ValueError := by
  have hall : ((l.map Nat.cast).all fun x : Int => decide (0 ≤ x) && decide (x < 256)) = l.all (· < 256) := by
    rw [List.all_map]
    exact List.all_congr rfl (fun x => by simp [Function.comp]; omega)
  have hmap : (l.map (Nat.cast : Nat → Int)).map Int.toNat = l := by
    simp [List.map_map, Function.comp_def]
  simp only [Frame.new, PyVal.asInt?, hall, hmap]
  by_cases h1 : (n : Int) < 1 <;> by_cases ha : l.all (· < 256) = true <;> simp [h1, ha]

theorem ofBytesI_model (n : Nat) (hn : 1 ≤ n) (l : List Nat) (e : Int) (he : (∀ b ∈ l, b < 256) → e = ofBytesBE l) :
    ofBytesI n e (l.map Nat.cast) = dataOf (Frame.new (natVal n) (.ints (l.map Nat.cast))) := by
  rw [ofBytesI_all, natVal, new_ints]
  split
  · next h =>
    rw [he (by simpa using h)]
    exact (new_then n _ hn Command.AddsLike.ok).trans (congrArg dataOf (bind_ok _))
  · rfl

/-- what every one of these constructors ends in once the second byte `p` is known to be a byte: the code's own
range check (inside `int.from_bytes`), then `Frame.__init__`'s sign and width checks -/
def tail (cv p : Int) : Except PyErr Int :=
  if cv < 0 then .error .ValueError
  else if cv > 255 then .error .ValueError
  else if pyOr (pyShl (pyOr 0 cv) 8) p < 0 then .error .ValueError
  else if (bitLength (pyOr (pyShl (pyOr 0 cv) 8) p) : Int) > 16 then .error .ValueError
  else .ok (pyOr (pyShl (pyOr 0 cv) 8) p)

theorem tail_model (cv p : Nat) (hp : p < 256) :
    tail cv p = dataOf (Frame.new (natVal 16) (.ints [(cv : Int), (p : Int)])) := by
  have h0 : ¬ (p : Int) < 0 := by omega
  have h1 : ¬ (p : Int) > 255 := by omega
  refine Eq.trans ?_ (ofBytesI_model 16 (by decide) [cv, p] _ (fun _ => twoBytes cv p hp))
  simp only [tail, ofBytesI, List.map, if_neg h0, if_neg h1]
  rfl

theorem specialNoParam_src (cv : Int) : Gen.SrcSpecial.specialNoParam cv = tail cv 0 := by
  unfold Gen.SrcSpecial.specialNoParam tail; rfl
theorem specialParam_src (cv p : Int) : Gen.SrcSpecial.specialParam cv p = ranged p 255 (tail cv p) := by
  unfold Gen.SrcSpecial.specialParam tail ranged; grind
theorem shortSpecialMask_src (cv : Int) : Gen.SrcSpecial.shortSpecialMask cv = tail cv 255 := by
  unfold Gen.SrcSpecial.shortSpecialMask tail; rfl

/-- `_ShortAddrSpecialCommand.__init__` and `Initialise.__init__` with an integer address: the address check, then
the second byte `(address << 1) | 1` -/
def addrTail (cv a : Int) : Except PyErr Int :=
  ranged a 63 (ranged (pyOr (pyShl a 1) 1) 255 (tail cv (pyOr (pyShl a 1) 1)))

theorem shortSpecial_src (cv a : Int) : Gen.SrcSpecial.shortSpecial cv a = addrTail cv a := by
  unfold Gen.SrcSpecial.shortSpecial addrTail tail ranged; grind
theorem initialiseAddr_src (cv a : Int) : Gen.SrcSpecial.initialiseAddr cv a = addrTail cv a := by
  unfold Gen.SrcSpecial.initialiseAddr addrTail tail ranged; grind
theorem initialiseBroadcast_src (cv : Int) : Gen.SrcSpecial.initialiseBroadcast cv = tail cv 0 := by
  unfold Gen.SrcSpecial.initialiseBroadcast tail; rfl
theorem initialiseUnaddressed_src (cv : Int) : Gen.SrcSpecial.initialiseUnaddressed cv = tail cv 255 := by
  unfold Gen.SrcSpecial.initialiseUnaddressed tail; rfl

/-- the second byte of a short-address special command: `(address << 1) | 1`, a byte for addresses 0..63 -/
theorem addrByte (a : Nat) (ha : a ≤ 63) :
    pyOr (pyShl (a : Int) 1) 1 = (((a <<< 1) ||| 1 : Nat) : Int) ∧ ((a <<< 1) ||| 1) < 256 := by
  constructor
  · rw [← Int.cast_ofNat_Int, pyShl_ofNat, pyOr_ofNat]
  · have h1 : a <<< 1 < 2 ^ 8 := by rw [Nat.shiftLeft_eq]; omega
    exact Nat.or_lt_two_pow h1 (by decide)

/-- a range check of the constructor against the model's `rangeCheck` -/
theorem ranged_check (v limit : Nat) (r : Except PyErr Int) (K : PyRes Frame) (h : v ≤ limit → r = dataOf K) :
    ranged v limit r = dataOf ((rangeCheck v limit).bind fun _ => K) := by
  rw [dataOf_bind]
  exact ranged_bind v limit (fun _ => ()) r _ fun s hs _ => h (by omega)

theorem addrTail_model (cv a : Nat) :
    addrTail cv a = dataOf ((rangeCheck a 63).bind fun _ =>
      Frame.new (natVal 16) (.ints [(cv : Int), ((a <<< 1 ||| 1 : Nat) : Int)])) := by
  refine ranged_check a 63 _ _ fun h => ?_
  obtain ⟨e, hlt⟩ := addrByte a h
  rw [e, ranged_ok _ _ _ (by omega)]
  exact tail_model _ _ hlt

theorem specialParam_tie (c : SpecialClass) (hc : c.hasparam = true) (param : Nat) :
    Gen.SrcSpecial.specialParam c.cmdval param = dataOf (Cmd.encode (.special c param)) := by
  rw [specialParam_src]
  simp only [Cmd.encode, hc, if_true]
  exact ranged_check param 255 _ _ fun h => tail_model _ _ (by omega)

theorem specialNoParam_tie (c : SpecialClass) (hc : c.hasparam = false) (p : Nat) :
    Gen.SrcSpecial.specialNoParam c.cmdval = dataOf (Cmd.encode (.special c p)) := by
  rw [specialNoParam_src]
  simp only [Cmd.encode, hc, Bool.false_eq_true, if_false]
  exact tail_model c.cmdval 0 (by decide)

theorem shortSpecialMask_tie (c : SpecialClass) :
    Gen.SrcSpecial.shortSpecialMask c.cmdval = dataOf (Cmd.encode (.shortSpecial c none)) := by
  rw [shortSpecialMask_src]
  simp only [Cmd.encode, bind, Except.bind, pure, Except.pure]
  exact tail_model c.cmdval 255 (by decide)

theorem shortSpecial_tie (c : SpecialClass) (a : Nat) :
    Gen.SrcSpecial.shortSpecial c.cmdval a = dataOf (Cmd.encode (.shortSpecial c (some a))) := by
  rw [shortSpecial_src, addrTail_model]
  simp only [Cmd.encode, pure_bind]
  rfl

theorem initialiseAddr_tie (c : SpecialClass) (a : Nat) :
    Gen.SrcSpecial.initialiseAddr c.cmdval a = dataOf (Cmd.encode (.initialise c false (some a))) := by
  rw [initialiseAddr_src, addrTail_model]
  rfl

theorem initialiseBroadcastAddr_tie (c : SpecialClass) (a : Nat) :
    Gen.SrcSpecial.initialiseBroadcastAddr c.cmdval a = dataOf (Cmd.encode (.initialise c true (some a))) := rfl

theorem initialiseBroadcast_tie (c : SpecialClass) :
    Gen.SrcSpecial.initialiseBroadcast c.cmdval = dataOf (Cmd.encode (.initialise c true none)) := by
  rw [initialiseBroadcast_src]
  simp only [Cmd.encode, Option.isSome_none, Bool.and_false, Bool.false_eq_true, if_false, if_true]
  exact tail_model c.cmdval 0 (by decide)

theorem initialiseUnaddressed_tie (c : SpecialClass) :
    Gen.SrcSpecial.initialiseUnaddressed c.cmdval = dataOf (Cmd.encode (.initialise c false none)) := by
  rw [initialiseUnaddressed_src]
  simp only [Cmd.encode, Bool.false_and, Bool.false_eq_true, if_false]
  exact tail_model c.cmdval 255 (by decide)

/-- what the three 24-bit special-command constructors of part 103 end in: `int.from_bytes`' element checks left to right,
then `Frame.__init__`'s sign and width checks -/
def tail3 (x y z : Int) : Except PyErr Int :=
  if x < 0 then .error .ValueError
  else if x > 255 then .error .ValueError
  else if y < 0 then .error .ValueError
  else if y > 255 then .error .ValueError
  else if z < 0 then .error .ValueError
  else if z > 255 then .error .ValueError
  else if pyOr (pyShl (pyOr (pyShl (pyOr 0 x) 8) y) 8) z < 0 then .error .ValueError
  else if (bitLength (pyOr (pyShl (pyOr (pyShl (pyOr 0 x) 8) y) 8) z) : Int) > 24 then .error .ValueError
  else .ok (pyOr (pyShl (pyOr (pyShl (pyOr 0 x) 8) y) 8) z)

theorem tail3_model (x y z : Nat) :
    tail3 x y z = dataOf (Frame.new (natVal 24) (.ints [(x : Int), (y : Int), (z : Int)])) :=
  ofBytesI_model 24 (by decide) [x, y, z] _ (fun h => threeBytes x y z (h y (by simp)) (h z (by simp)))

theorem devSpecial0_src (a i : Int) : Gen.SrcSpecial.devSpecial0 a i = tail3 a i 0 := by
  unfold Gen.SrcSpecial.devSpecial0 tail3; grind
theorem devSpecial1_src (a i p : Int) : Gen.SrcSpecial.devSpecial1 a i p = ranged p 255 (tail3 a i p) := by
  unfold Gen.SrcSpecial.devSpecial1 tail3 ranged; grind
theorem devSpecial2_src (addr a b : Int) :
    Gen.SrcSpecial.devSpecial2 addr a b = ranged a 255 (ranged b 255 (tail3 addr a b)) := by
  unfold Gen.SrcSpecial.devSpecial2 tail3 ranged; grind

theorem devSpecial0_tie (c : DevSpecialClass) (hk : c.kind = .zero) :
    Gen.SrcSpecial.devSpecial0 c.addr c.inst = dataOf (Cmd.encode (.devSpecial c c.inst 0)) := by
  rw [devSpecial0_src]
  simp only [Cmd.encode, hk]
  exact tail3_model c.addr c.inst 0

theorem devSpecial1_tie (c : DevSpecialClass) (hk : c.kind = .one) (p : Nat) :
    Gen.SrcSpecial.devSpecial1 c.addr c.inst p = dataOf (Cmd.encode (.devSpecial c c.inst p)) := by
  rw [devSpecial1_src]
  simp only [Cmd.encode, hk]
  exact ranged_check p 255 _ _ fun _ => tail3_model _ _ _

theorem devSpecial2_tie (c : DevSpecialClass) (hk : c.kind = .two) (a b : Nat) :
    Gen.SrcSpecial.devSpecial2 c.addr a b = dataOf (Cmd.encode (.devSpecial c a b)) := by
  rw [devSpecial2_src]
  simp only [Cmd.encode, hk]
  exact ranged_check a 255 _ _ fun _ => ranged_check b 255 _ _ fun _ => tail3_model _ _ _

/-- every class the data translator found registered as a special command of kind `.plain`, `.shortAddr` or
`.initialise` is a class the source translator traced -/
theorem special_rows_traced :
    Gen.tables.specialOpcodes.all (fun e =>
      match e.2.kind with
      | .plain => if e.2.hasparam then Gen.SrcSpecial.specialParamKeys.contains (0, e.2.cmdval)
                  else Gen.SrcSpecial.specialNoParamKeys.contains (0, e.2.cmdval)
      | .shortAddr => Gen.SrcSpecial.shortSpecialKeys.contains (0, e.2.cmdval)
      | .initialise => Gen.SrcSpecial.initialiseKeys.contains (0, e.2.cmdval)
      | .custom => true) = true := by
  decide +kernel

/-- every registered 24-bit special command of one of the three constructor kinds is a traced class -/
theorem devSpecial_rows_traced :
    Gen.tables.devCommands.all (fun e =>
      match e with
      | .special c =>
          (match c.kind with
           | .zero => Gen.SrcSpecial.devSpecial0Keys.contains (c.addr, c.inst)
           | .one => Gen.SrcSpecial.devSpecial1Keys.contains (c.addr, c.inst)
           | .two => Gen.SrcSpecial.devSpecial2Keys.contains (c.addr, 0)
           | _ => true)
      | _ => true) = true := by
  decide +kernel

end DaliVerif.Tie.Special
