import DaliVerif.Gen.SrcAddress
import DaliVerif.Model.AddressI
import DaliVerif.Proofs.AddressI
import DaliVerif.Proofs.Instance
import DaliVerif.Gen.Commands
/-!
# The source of `dali/address.py`, as translated on this run, equals the integer-level forms

First one `_src` theorem per regenerated definition (`Gen.SrcAddress.*` = the form in `Model/AddressI.lean`, for
all integers, by case analysis over the traced paths), then the `_tie` theorems composed with
`Proofs/AddressI.lean`.
-/
namespace DaliVerif.Tie.Address
open DaliVerif DaliVerif.AddressI

theorem fromFrame16_src (d : Int) : Gen.SrcAddress.fromFrame16 d = AddressI.fromFrame16 d := by
  unfold Gen.SrcAddress.fromFrame16 AddressI.fromFrame16 ranged sl; grind

theorem fromFrame24_src (d : Int) : Gen.SrcAddress.fromFrame24 d = AddressI.fromFrame24 d := by
  unfold Gen.SrcAddress.fromFrame24 AddressI.fromFrame24 ranged sl; grind (splits := 80)

theorem instFromFrame24_src (d : Int) : Gen.SrcAddress.instFromFrame24 d = AddressI.instFromFrame24 d := by
  unfold Gen.SrcAddress.instFromFrame24 AddressI.instFromFrame24 ranged sl; grind (splits := 80)

theorem addGearBroadcast_src (d : Int) : Gen.SrcAddress.addGearBroadcast d = AddressI.addGearBroadcast d := by
  unfold Gen.SrcAddress.addGearBroadcast AddressI.addGearBroadcast; grind

theorem addGearBroadcastUnaddressed_src (d : Int) : Gen.SrcAddress.addGearBroadcastUnaddressed d = AddressI.addGearBroadcastUnaddressed d := by
  unfold Gen.SrcAddress.addGearBroadcastUnaddressed AddressI.addGearBroadcastUnaddressed; grind

theorem addGearGroup_src (d n : Int) : Gen.SrcAddress.addGearGroup d n = AddressI.addGearGroup d n := by
  unfold Gen.SrcAddress.addGearGroup AddressI.addGearGroup ranged fits put; grind

theorem addGearShort_src (d n : Int) : Gen.SrcAddress.addGearShort d n = AddressI.addGearShort d n := by
  unfold Gen.SrcAddress.addGearShort AddressI.addGearShort ranged fits put; grind

theorem addDeviceBroadcast_src (d : Int) : Gen.SrcAddress.addDeviceBroadcast d = AddressI.addDeviceBroadcast d := by
  unfold Gen.SrcAddress.addDeviceBroadcast AddressI.addDeviceBroadcast; grind

theorem addDeviceBroadcastUnaddressed_src (d : Int) : Gen.SrcAddress.addDeviceBroadcastUnaddressed d = AddressI.addDeviceBroadcastUnaddressed d := by
  unfold Gen.SrcAddress.addDeviceBroadcastUnaddressed AddressI.addDeviceBroadcastUnaddressed; grind

theorem addDeviceGroup_src (d n : Int) : Gen.SrcAddress.addDeviceGroup d n = AddressI.addDeviceGroup d n := by
  unfold Gen.SrcAddress.addDeviceGroup AddressI.addDeviceGroup ranged fits put; grind

theorem addDeviceShort_src (d n : Int) : Gen.SrcAddress.addDeviceShort d n = AddressI.addDeviceShort d n := by
  unfold Gen.SrcAddress.addDeviceShort AddressI.addDeviceShort ranged fits put; grind

theorem addInstanceNumber_src (d n : Int) : Gen.SrcAddress.addInstanceNumber d n = AddressI.addInst 0 d n := by
  unfold Gen.SrcAddress.addInstanceNumber AddressI.addInst ranged fits put; grind

theorem addInstanceGroup_src (d n : Int) : Gen.SrcAddress.addInstanceGroup d n = AddressI.addInst 128 d n := by
  unfold Gen.SrcAddress.addInstanceGroup AddressI.addInst ranged fits put; grind

theorem addInstanceType_src (d n : Int) : Gen.SrcAddress.addInstanceType d n = AddressI.addInst 192 d n := by
  unfold Gen.SrcAddress.addInstanceType AddressI.addInst ranged fits put; grind

theorem addFeatureInstanceNumber_src (d n : Int) : Gen.SrcAddress.addFeatureInstanceNumber d n = AddressI.addInst 32 d n := by
  unfold Gen.SrcAddress.addFeatureInstanceNumber AddressI.addInst ranged fits put; grind

theorem addFeatureInstanceGroup_src (d n : Int) : Gen.SrcAddress.addFeatureInstanceGroup d n = AddressI.addInst 160 d n := by
  unfold Gen.SrcAddress.addFeatureInstanceGroup AddressI.addInst ranged fits put; grind

theorem addFeatureInstanceType_src (d n : Int) : Gen.SrcAddress.addFeatureInstanceType d n = AddressI.addInst 96 d n := by
  unfold Gen.SrcAddress.addFeatureInstanceType AddressI.addInst ranged fits put; grind

theorem addReservedInstance_src (d n : Int) : Gen.SrcAddress.addReservedInstance d n = AddressI.addReservedInstance d n := by
  unfold Gen.SrcAddress.addReservedInstance AddressI.addReservedInstance fits put; grind

theorem addFeatureInstanceBroadcast_src (d : Int) : Gen.SrcAddress.addFeatureInstanceBroadcast d = AddressI.addPlain 64768 d := by
  unfold Gen.SrcAddress.addFeatureInstanceBroadcast AddressI.addPlain; grind

theorem addInstanceBroadcast_src (d : Int) : Gen.SrcAddress.addInstanceBroadcast d = AddressI.addPlain 65280 d := by
  unfold Gen.SrcAddress.addInstanceBroadcast AddressI.addPlain; grind

theorem addFeatureDevice_src (d : Int) : Gen.SrcAddress.addFeatureDevice d = AddressI.addPlain 64512 d := by
  unfold Gen.SrcAddress.addFeatureDevice AddressI.addPlain; grind

theorem addDevice_src (d : Int) : Gen.SrcAddress.addDevice d = AddressI.addPlain 65024 d := by
  unfold Gen.SrcAddress.addDevice AddressI.addPlain; grind


/-! ## The model (and the standard's partition) as a function of the translated source

For every 16- or 24-bit frame content and every integer argument, `Model/Address.lean` computes what the source
translated on this run computes; the address kind it reads is the one the standard's partition assigns. -/
open DaliVerif.Spec

theorem order_ok : OrderOK Gen.tables.addrOrder := by decide

/-- `address.from_frame` on any 16-bit frame = the model under the regenerated registration order. -/
theorem fromFrame16_tie (n : Nat) :
    Gen.SrcAddress.fromFrame16 n = .ok (encAddr (Addr.fromFrame Gen.tables.addrOrder ⟨16, n⟩)) := by
  rw [fromFrame16_src, fromFrame16_spec, Addr.fromFrame_eq_partition _ order_ok]

theorem fromFrame24_tie (n : Nat) :
    Gen.SrcAddress.fromFrame24 n = .ok (encAddr (Addr.fromFrame Gen.tables.addrOrder ⟨24, n⟩)) := by
  rw [fromFrame24_src, fromFrame24_spec, Addr.fromFrame_eq_partition _ order_ok]

/-- the translated source itself obeys the standard's partition of the address byte (C04, first clause) -/
theorem fromFrame16_partition (n : Nat) :
    Gen.SrcAddress.fromFrame16 n = .ok (encAddr (gearPartition (n / 512 % 128))) := by
  rw [fromFrame16_src, fromFrame16_spec]; rfl

theorem fromFrame24_partition (n : Nat) :
    Gen.SrcAddress.fromFrame24 n =
      .ok (encAddr (devicePartition (n / 65536 % 2 = 1) (n / 131072 % 128))) := by
  rw [fromFrame24_src, fromFrame24_spec]; rfl

/-- `instance_from_frame` on any 24-bit frame = the model (which `Props/C04.lean` `inst_partition` equates with
Table 2 of part 103; the proof goes through the table) -/
theorem instFromFrame24_tie (n : Nat) :
    Gen.SrcAddress.instFromFrame24 n = .ok ((Inst.fromFrame ⟨24, n⟩).elim ("None", 0) encInst) := by
  rw [instFromFrame24_src, instFromFrame24_spec, Inst.fromFrame_eq_ofByteModel,
    Inst.ofByteModel_eq_spec ⟨n / 256 % 256, Nat.mod_lt _ (by decide)⟩]
  rfl

theorem addGearShort_tie (d : Nat) (n : Int) : Gen.SrcAddress.addGearShort d n =
    (Addr.mkGearShort (.int n)).bind (fun a => dataOf (a.addToFrame ⟨16, d⟩)) := by
  rw [addGearShort_src, addGearShort_model]
theorem addGearGroup_tie (d : Nat) (n : Int) : Gen.SrcAddress.addGearGroup d n =
    (Addr.mkGearGroup (.int n)).bind (fun a => dataOf (a.addToFrame ⟨16, d⟩)) := by
  rw [addGearGroup_src, addGearGroup_model]
theorem addDeviceShort_tie (d : Nat) (n : Int) : Gen.SrcAddress.addDeviceShort d n =
    (Addr.mkDeviceShort (.int n)).bind (fun a => dataOf (a.addToFrame ⟨24, d⟩)) := by
  rw [addDeviceShort_src, addDeviceShort_model]
theorem addDeviceGroup_tie (d : Nat) (n : Int) : Gen.SrcAddress.addDeviceGroup d n =
    (Addr.mkDeviceGroup (.int n)).bind (fun a => dataOf (a.addToFrame ⟨24, d⟩)) := by
  rw [addDeviceGroup_src, addDeviceGroup_model]
theorem addGearBroadcast_tie (d : Nat) : Gen.SrcAddress.addGearBroadcast d =
    dataOf (Addr.gearBroadcast.addToFrame ⟨16, d⟩) := by
  rw [addGearBroadcast_src, addGearBroadcast_model]
theorem addGearBroadcastUnaddressed_tie (d : Nat) : Gen.SrcAddress.addGearBroadcastUnaddressed d =
    dataOf (Addr.gearUnaddressed.addToFrame ⟨16, d⟩) := by
  rw [addGearBroadcastUnaddressed_src, addGearBroadcastUnaddressed_model]
theorem addDeviceBroadcast_tie (d : Nat) : Gen.SrcAddress.addDeviceBroadcast d =
    dataOf (Addr.deviceBroadcast.addToFrame ⟨24, d⟩) := by
  rw [addDeviceBroadcast_src, addDeviceBroadcast_model]
theorem addDeviceBroadcastUnaddressed_tie (d : Nat) : Gen.SrcAddress.addDeviceBroadcastUnaddressed d =
    dataOf (Addr.deviceUnaddressed.addToFrame ⟨24, d⟩) := by
  rw [addDeviceBroadcastUnaddressed_src, addDeviceBroadcastUnaddressed_model]
theorem addInstanceNumber_tie (d : Nat) (n : Int) : Gen.SrcAddress.addInstanceNumber d n =
    (Inst.mkNumbered Inst.number (.int n)).bind (fun i => dataOf (i.addToFrame ⟨24, d⟩)) := by
  rw [addInstanceNumber_src, addInst_model Inst.number 0 (fun _ => rfl)]
theorem addInstanceGroup_tie (d : Nat) (n : Int) : Gen.SrcAddress.addInstanceGroup d n =
    (Inst.mkNumbered Inst.group (.int n)).bind (fun i => dataOf (i.addToFrame ⟨24, d⟩)) := by
  rw [addInstanceGroup_src, addInst_model Inst.group 128 (fun _ => rfl)]
theorem addInstanceType_tie (d : Nat) (n : Int) : Gen.SrcAddress.addInstanceType d n =
    (Inst.mkNumbered Inst.type (.int n)).bind (fun i => dataOf (i.addToFrame ⟨24, d⟩)) := by
  rw [addInstanceType_src, addInst_model Inst.type 192 (fun _ => rfl)]
theorem addFeatureInstanceNumber_tie (d : Nat) (n : Int) : Gen.SrcAddress.addFeatureInstanceNumber d n =
    (Inst.mkNumbered Inst.featNumber (.int n)).bind (fun i => dataOf (i.addToFrame ⟨24, d⟩)) := by
  rw [addFeatureInstanceNumber_src, addInst_model Inst.featNumber 32 (fun _ => rfl)]
theorem addFeatureInstanceGroup_tie (d : Nat) (n : Int) : Gen.SrcAddress.addFeatureInstanceGroup d n =
    (Inst.mkNumbered Inst.featGroup (.int n)).bind (fun i => dataOf (i.addToFrame ⟨24, d⟩)) := by
  rw [addFeatureInstanceGroup_src, addInst_model Inst.featGroup 160 (fun _ => rfl)]
theorem addFeatureInstanceType_tie (d : Nat) (n : Int) : Gen.SrcAddress.addFeatureInstanceType d n =
    (Inst.mkNumbered Inst.featType (.int n)).bind (fun i => dataOf (i.addToFrame ⟨24, d⟩)) := by
  rw [addFeatureInstanceType_src, addInst_model Inst.featType 96 (fun _ => rfl)]
theorem addReservedInstance_tie (d b : Nat) : Gen.SrcAddress.addReservedInstance d b =
    dataOf ((Inst.reserved b).addToFrame ⟨24, d⟩) := by
  rw [addReservedInstance_src, addReserved_model]
theorem addFeatureInstanceBroadcast_tie (d : Nat) : Gen.SrcAddress.addFeatureInstanceBroadcast d =
    dataOf (Inst.featBroadcast.addToFrame ⟨24, d⟩) := by
  rw [addFeatureInstanceBroadcast_src]; exact addPlain_model Inst.featBroadcast d (by decide)
theorem addInstanceBroadcast_tie (d : Nat) : Gen.SrcAddress.addInstanceBroadcast d =
    dataOf (Inst.broadcast.addToFrame ⟨24, d⟩) := by
  rw [addInstanceBroadcast_src]; exact addPlain_model Inst.broadcast d (by decide)
theorem addFeatureDevice_tie (d : Nat) : Gen.SrcAddress.addFeatureDevice d =
    dataOf (Inst.featDevice.addToFrame ⟨24, d⟩) := by
  rw [addFeatureDevice_src]; exact addPlain_model Inst.featDevice d (by decide)
theorem addDevice_tie (d : Nat) : Gen.SrcAddress.addDevice d =
    dataOf (Inst.device.addToFrame ⟨24, d⟩) := by
  rw [addDevice_src]; exact addPlain_model Inst.device d (by decide)

end DaliVerif.Tie.Address
