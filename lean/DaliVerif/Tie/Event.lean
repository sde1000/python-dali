import DaliVerif.Gen.SrcEvent
import DaliVerif.Model.EventI
import DaliVerif.Proofs.EventI
/-!
# The event constructor, as translated from the source on this run, equals the model's frame assembly

First one `_src` theorem per regenerated definition (`Gen.SrcEvent.*` = the continuation-style form in
`Model/EventI.lean`, for all integers), then the `_tie` theorems against `Cmd.encode (.event …)`, composed with
`Proofs/EventI.lean` `src_model`.
-/
namespace DaliVerif.Tie.Event
open DaliVerif DaliVerif.EventI DaliVerif.AddressI

macro "ev_unfold" : tactic => `(tactic|
  simp only [EventI.device, EventI.deviceInstance, EventI.deviceGroup, EventI.instanceGroup, EventI.inst,
    EventI.start, EventI.put1410, EventI.put2117, EventI.put90, EventI.light, EventI.occ, EventI.done,
    EventI.clr23, EventI.set23, EventI.clr22, EventI.set22, EventI.clr15, EventI.set15,
    AddressI.addDeviceShort, AddressI.ranged, AddressI.fits, AddressI.put])

theorem ev_device_src (info itype sa : Int) :
    Gen.SrcEvent.ev_device info itype sa = EventI.device info itype sa done := by
  unfold Gen.SrcEvent.ev_device; ev_unfold; grind
theorem ev_deviceInstance_src (info itype sa inum : Int) :
    Gen.SrcEvent.ev_deviceInstance info itype sa inum = EventI.deviceInstance info inum sa done := by
  unfold Gen.SrcEvent.ev_deviceInstance; ev_unfold; grind
theorem ev_deviceGroup_src (info itype g : Int) :
    Gen.SrcEvent.ev_deviceGroup info itype g = EventI.deviceGroup info itype g done := by
  unfold Gen.SrcEvent.ev_deviceGroup; ev_unfold; grind
theorem ev_instanceGroup_src (info itype g : Int) :
    Gen.SrcEvent.ev_instanceGroup info itype g = EventI.instanceGroup info itype g done := by
  unfold Gen.SrcEvent.ev_instanceGroup; ev_unfold; grind
theorem ev_inst_src (info itype inum : Int) :
    Gen.SrcEvent.ev_inst info itype inum = EventI.inst info itype inum done := by
  unfold Gen.SrcEvent.ev_inst; ev_unfold; grind

theorem evLight_device_src (info itype sa data : Int) :
    Gen.SrcEvent.evLight_device info itype sa data = EventI.device info itype sa (EventI.light data) := by
  unfold Gen.SrcEvent.evLight_device; ev_unfold; grind
theorem evLight_deviceInstance_src (info itype sa inum data : Int) :
    Gen.SrcEvent.evLight_deviceInstance info itype sa inum data =
      EventI.deviceInstance info inum sa (EventI.light data) := by
  unfold Gen.SrcEvent.evLight_deviceInstance; ev_unfold; grind
theorem evLight_deviceGroup_src (info itype g data : Int) :
    Gen.SrcEvent.evLight_deviceGroup info itype g data = EventI.deviceGroup info itype g (EventI.light data) := by
  unfold Gen.SrcEvent.evLight_deviceGroup; ev_unfold; grind
theorem evLight_instanceGroup_src (info itype g data : Int) :
    Gen.SrcEvent.evLight_instanceGroup info itype g data =
      EventI.instanceGroup info itype g (EventI.light data) := by
  unfold Gen.SrcEvent.evLight_instanceGroup; ev_unfold; grind
theorem evLight_inst_src (info itype inum data : Int) :
    Gen.SrcEvent.evLight_inst info itype inum data = EventI.inst info itype inum (EventI.light data) := by
  unfold Gen.SrcEvent.evLight_inst; ev_unfold; grind

theorem evOcc_device_src (info itype sa data : Int) :
    Gen.SrcEvent.evOcc_device info itype sa data = EventI.device info itype sa (EventI.occ data) := by
  unfold Gen.SrcEvent.evOcc_device; ev_unfold; grind (splits := 80)
theorem evOcc_deviceInstance_src (info itype sa inum data : Int) :
    Gen.SrcEvent.evOcc_deviceInstance info itype sa inum data =
      EventI.deviceInstance info inum sa (EventI.occ data) := by
  unfold Gen.SrcEvent.evOcc_deviceInstance; ev_unfold; grind (splits := 80)
theorem evOcc_deviceGroup_src (info itype g data : Int) :
    Gen.SrcEvent.evOcc_deviceGroup info itype g data = EventI.deviceGroup info itype g (EventI.occ data) := by
  unfold Gen.SrcEvent.evOcc_deviceGroup; ev_unfold; grind (splits := 80)
theorem evOcc_instanceGroup_src (info itype g data : Int) :
    Gen.SrcEvent.evOcc_instanceGroup info itype g data =
      EventI.instanceGroup info itype g (EventI.occ data) := by
  unfold Gen.SrcEvent.evOcc_instanceGroup; ev_unfold; grind (splits := 80)
theorem evOcc_inst_src (info itype inum data : Int) :
    Gen.SrcEvent.evOcc_inst info itype inum data = EventI.inst info itype inum (EventI.occ data) := by
  unfold Gen.SrcEvent.evOcc_inst; ev_unfold; grind (splits := 80)


/-! ## The model's event frames as a function of the translated constructor

For every push-button event class record, every instance type and every field value (natural numbers of any
size: the range checks are part of both sides), and for the light-sensor event every illuminance value: the
frame `Cmd.encode` assigns — or its exception — is what the constructor translated on this run yields. -/
open DaliVerif.Cmd

theorem encode_push (cls : String) (itype : Nat) (src : EventSrc) (pc : PushClass) :
    Cmd.encode (.event cls itype src (.pushbutton pc)) =
      (newFrame 24 pc.info).bind (fun f => (eventSrcToFrame f itype src).bind (fun f => .ok f)) := rfl

theorem encode_light (cls : String) (itype : Nat) (src : EventSrc) (v : Nat) :
    Cmd.encode (.event cls itype src (.light v)) =
      (newFrame 24 0).bind (fun f => (eventSrcToFrame f itype src).bind (fun f => Cmd.setSlice f 9 0 v)) := rfl

theorem ev_device_tie (cls : String) (pc : PushClass) (itype sa : Nat) :
    Gen.SrcEvent.ev_device pc.info itype sa =
      dataOf (Cmd.encode (.event cls itype (.device sa) (.pushbutton pc))) := by
  rw [ev_device_src, encode_push]; exact src_model _ _ (.device sa) cont_done
theorem ev_deviceInstance_tie (cls : String) (pc : PushClass) (itype sa inum : Nat) :
    Gen.SrcEvent.ev_deviceInstance pc.info itype sa inum =
      dataOf (Cmd.encode (.event cls itype (.deviceInstance sa inum) (.pushbutton pc))) := by
  rw [ev_deviceInstance_src, encode_push]; exact src_model _ _ (.deviceInstance sa inum) cont_done
theorem ev_deviceGroup_tie (cls : String) (pc : PushClass) (itype g : Nat) :
    Gen.SrcEvent.ev_deviceGroup pc.info itype g =
      dataOf (Cmd.encode (.event cls itype (.deviceGroup g) (.pushbutton pc))) := by
  rw [ev_deviceGroup_src, encode_push]; exact src_model _ _ (.deviceGroup g) cont_done
theorem ev_instanceGroup_tie (cls : String) (pc : PushClass) (itype g : Nat) :
    Gen.SrcEvent.ev_instanceGroup pc.info itype g =
      dataOf (Cmd.encode (.event cls itype (.instanceGroup g) (.pushbutton pc))) := by
  rw [ev_instanceGroup_src, encode_push]; exact src_model _ _ (.instanceGroup g) cont_done
theorem ev_inst_tie (cls : String) (pc : PushClass) (itype inum : Nat) :
    Gen.SrcEvent.ev_inst pc.info itype inum =
      dataOf (Cmd.encode (.event cls itype (.inst inum) (.pushbutton pc))) := by
  rw [ev_inst_src, encode_push]; exact src_model _ _ (.inst inum) cont_done

theorem evLight_device_tie (cls : String) (itype sa v : Nat) :
    Gen.SrcEvent.evLight_device 0 itype sa v =
      dataOf (Cmd.encode (.event cls itype (.device sa) (.light v))) := by
  rw [evLight_device_src, encode_light]; exact src_model 0 _ (.device sa) (cont_light v)
theorem evLight_deviceInstance_tie (cls : String) (itype sa inum v : Nat) :
    Gen.SrcEvent.evLight_deviceInstance 0 itype sa inum v =
      dataOf (Cmd.encode (.event cls itype (.deviceInstance sa inum) (.light v))) := by
  rw [evLight_deviceInstance_src, encode_light]; exact src_model 0 _ (.deviceInstance sa inum) (cont_light v)
theorem evLight_deviceGroup_tie (cls : String) (itype g v : Nat) :
    Gen.SrcEvent.evLight_deviceGroup 0 itype g v =
      dataOf (Cmd.encode (.event cls itype (.deviceGroup g) (.light v))) := by
  rw [evLight_deviceGroup_src, encode_light]; exact src_model 0 _ (.deviceGroup g) (cont_light v)
theorem evLight_instanceGroup_tie (cls : String) (itype g v : Nat) :
    Gen.SrcEvent.evLight_instanceGroup 0 itype g v =
      dataOf (Cmd.encode (.event cls itype (.instanceGroup g) (.light v))) := by
  rw [evLight_instanceGroup_src, encode_light]; exact src_model 0 _ (.instanceGroup g) (cont_light v)
theorem evLight_inst_tie (cls : String) (itype inum v : Nat) :
    Gen.SrcEvent.evLight_inst 0 itype inum v =
      dataOf (Cmd.encode (.event cls itype (.inst inum) (.light v))) := by
  rw [evLight_inst_src, encode_light]; exact src_model 0 _ (.inst inum) (cont_light v)

/-! ### The occupancy event (part 303): `data` given as an integer

For every integer `data` (of any size — the constructor does not range-check it; only its low four bits are
looked at) the translated constructor yields the frame `Cmd.encode` assigns to the event whose four flags are
those bits, under every addressing scheme, or the same exception. -/
theorem encode_occ (cls : String) (itype : Nat) (src : EventSrc) (mv oc rp sm : Bool) :
    Cmd.encode (.event cls itype src (.occupancy mv oc rp sm)) =
      (newFrame 24 0).bind (fun f => (eventSrcToFrame f itype src).bind (EventI.occK mv oc rp sm)) := rfl

/-- the flags an integer `data` stands for (`OccupancyEvent._set_event_data`) -/
def occOf (cls : String) (itype : Nat) (src : EventSrc) (data : Nat) : Cmd :=
  .event cls itype src (.occupancy (data &&& 1 == 1) (data &&& 2 == 2) (data &&& 4 == 4) (data &&& 8 == 8))

theorem evOcc_device_tie (cls : String) (itype sa data : Nat) :
    Gen.SrcEvent.evOcc_device 0 itype sa data = dataOf (Cmd.encode (occOf cls itype (.device sa) data)) := by
  rw [evOcc_device_src, occOf, encode_occ]; exact src_model 0 _ (.device sa) (cont_occ data)
theorem evOcc_deviceInstance_tie (cls : String) (itype sa inum data : Nat) :
    Gen.SrcEvent.evOcc_deviceInstance 0 itype sa inum data =
      dataOf (Cmd.encode (occOf cls itype (.deviceInstance sa inum) data)) := by
  rw [evOcc_deviceInstance_src, occOf, encode_occ]; exact src_model 0 _ (.deviceInstance sa inum) (cont_occ data)
theorem evOcc_deviceGroup_tie (cls : String) (itype g data : Nat) :
    Gen.SrcEvent.evOcc_deviceGroup 0 itype g data =
      dataOf (Cmd.encode (occOf cls itype (.deviceGroup g) data)) := by
  rw [evOcc_deviceGroup_src, occOf, encode_occ]; exact src_model 0 _ (.deviceGroup g) (cont_occ data)
theorem evOcc_instanceGroup_tie (cls : String) (itype g data : Nat) :
    Gen.SrcEvent.evOcc_instanceGroup 0 itype g data =
      dataOf (Cmd.encode (occOf cls itype (.instanceGroup g) data)) := by
  rw [evOcc_instanceGroup_src, occOf, encode_occ]; exact src_model 0 _ (.instanceGroup g) (cont_occ data)
theorem evOcc_inst_tie (cls : String) (itype inum data : Nat) :
    Gen.SrcEvent.evOcc_inst 0 itype inum data = dataOf (Cmd.encode (occOf cls itype (.inst inum) data)) := by
  rw [evOcc_inst_src, occOf, encode_occ]; exact src_model 0 _ (.inst inum) (cont_occ data)

end DaliVerif.Tie.Event
