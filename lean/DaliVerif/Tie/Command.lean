import DaliVerif.Gen.SrcCommand
import DaliVerif.Gen.Commands
import DaliVerif.Model.Construct
import DaliVerif.Proofs.AddressI
import DaliVerif.Proofs.DecodeBasics
/-!
# The frame-assembling constructors, as translated from the source on this run, equal the model

`Gen.SrcCommand.*` are the five constructor functions that build the frames of the standard gear commands, DAPC,
the standard device commands and the instance commands, regenerated by running them on symbolic integers with
the destination / instance objects replaced by function parameters.  Each theorem says: whatever address (and
instance) object is plugged in, provided its `add_to_frame` is what `Model/Address.lean` says (which
`Tie/Address.lean` proves of the translated `dali/address.py`), the translated constructor yields exactly the
frame `Cmd.encode` of the model yields — or the same exception — for every class record and every integer
argument.
-/
namespace DaliVerif.Tie.Command
open DaliVerif DaliVerif.Cmd DaliVerif.AddressI DaliVerif.FrameI

theorem dataOf_bind_error (e : PyErr) (g : Frame → PyRes Frame) :
    dataOf ((Except.error e : PyRes Frame).bind g) = .error e := rfl

/-- the translator prints a call whose result is returned as it is as a match on the result -/
theorem AddsLike.eta {bits add g} (h : AddsLike bits add g) :
    AddsLike bits (fun d => match add d with
      | .error e => .error e
      | .ok r => .ok r) g := by
  intro d
  dsimp only
  rw [← h d]
  cases add d <;> rfl

/-- the destination's write followed by whatever `k` does on the contents -/
theorem AddsLike.seq {bits add k K} {a : Addr} (hadd : AddsLike bits add a.addToFrame) (hk : AddsLike bits k K) :
    AddsLike bits (fun d => match add d with
      | .error e => .error e
      | .ok r => k r) (fun f => (a.addToFrame f).bind K) := by
  intro d
  dsimp only
  rw [hadd d]
  exact after_addToFrame a d hk

/-- the common tail of the constructors: range-check the assembled value `e` as `ForwardFrame(bits, e)` does, then
hand the frame to the destination -/
theorem assemble (bits x : Nat) (hb : 1 ≤ bits) (e : Int) (he : e = x) {g : Frame → PyRes Frame}
    {add : Int → Except PyErr Int} (hadd : AddsLike bits add g) :
    (if e < 0 then .error .ValueError
     else if (bitLength e : Int) > bits then .error .ValueError
     else add e) = dataOf ((newFrame bits x).bind g) := by
  subst he
  exact new_then bits x hb hadd

/-- a parameter the constructor range-checks before it assembles the frame -/
theorem ranged_param (limit : Nat) (p : Int) (body : Except PyErr Int) (mk : Nat → Cmd)
    (hbody : ∀ q : Nat, p = q → q ≤ limit → body = dataOf (Cmd.encode (mk q))) :
    ranged p limit body =
      dataOf (((intParam (.val (.int p)) limit).bind (fun q => .ok (mk q))).bind Cmd.encode) := by
  rw [bind_assoc', dataOf_bind]
  exact ranged_bind p limit id _ _ hbody

theorem encode_standard (c : StdClass) (a : Addr) (q : Nat) (h : if c.hasparam then q ≤ 15 else q = 0) :
    Cmd.encode (.standard c a q) = (newFrame 16 (0x100 ||| c.cmdval ||| q)).bind a.addToFrame := by
  cases hc : c.hasparam <;> simp only [hc, Bool.false_eq_true, if_false, if_true] at h
  · simp only [Cmd.encode, hc, h, Bool.false_eq_true, if_false]; rfl
  · simp only [Cmd.encode, hc, if_true, rangeCheck_ok _ _ h]; rfl

theorem stdNoParam_tie (c : StdClass) (hc : c.hasparam = false) (a : Addr)
    (addDest : Int → Except PyErr Int) (hadd : AddsLike 16 addDest a.addToFrame) :
    Gen.SrcCommand.stdNoParam addDest c.cmdval = dataOf (Cmd.encode (.standard c a 0)) := by
  rw [encode_standard c a 0 (by simp [hc])]
  exact assemble 16 _ (by decide) _ (by simp only [← Int.cast_ofNat_Int, pyOr_ofNat]) hadd.eta

theorem stdParam_tie (c : StdClass) (hc : c.hasparam = true) (a : Addr)
    (addDest : Int → Except PyErr Int) (hadd : AddsLike 16 addDest a.addToFrame) (p : Int) :
    Gen.SrcCommand.stdParam addDest c.cmdval p =
      dataOf ((Cmd.constructStd c [.addr a, .val (.int p)]).bind Cmd.encode) := by
  have hm : Cmd.constructStd c [.addr a, .val (.int p)] =
      (intParam (.val (.int p)) 15).bind (fun q => .ok (.standard c a q)) := by
    simp only [Cmd.constructStd, hc, if_true, checkDestination]; rfl
  rw [hm]
  refine ranged_param 15 p _ _ fun q hp hq => ?_
  subst hp
  rw [encode_standard c a q (by simpa [hc] using hq)]
  exact assemble 16 _ (by decide) _ (by simp only [← Int.cast_ofNat_Int, pyOr_ofNat]) hadd.eta

theorem dapc_tie (a : Addr) (addDest : Int → Except PyErr Int) (hadd : AddsLike 16 addDest a.addToFrame)
    (power : Int) :
    Gen.SrcCommand.dapc addDest power =
      dataOf ((Cmd.constructDapc [.addr a, .val (.int power)]).bind Cmd.encode) := by
  refine ranged_param 255 power _ (.dapc a) fun q hp hq => ?_
  subst hp
  have he : Cmd.encode (.dapc a q) = (newFrame 16 q).bind a.addToFrame := by
    simp only [Cmd.encode, rangeCheck_ok _ _ hq]; rfl
  rw [he]
  exact assemble 16 q (by decide) _ rfl hadd.eta

theorem devStd_tie (c : DevClass) (a : Addr)
    (addDest : Int → Except PyErr Int) (hadd : AddsLike 24 addDest a.addToFrame) :
    Gen.SrcCommand.devStd addDest c.opcode = dataOf (Cmd.encode (.devStd c a)) :=
  assemble 24 (0x1FE00 ||| c.opcode) (by decide) _ (by simp only [← Int.cast_ofNat_Int, pyOr_ofNat]) hadd.eta

theorem devInst_tie (c : DevClass) (a : Addr) (i : Inst)
    (addDest addInst : Int → Except PyErr Int)
    (hadd : AddsLike 24 addDest a.addToFrame) (hinst : AddsLike 24 addInst i.addToFrame) :
    Gen.SrcCommand.devInst addDest addInst c.opcode = dataOf (Cmd.encode (.devInst c a i)) :=
  assemble 24 (0x10000 ||| c.opcode) (by decide) _ (by simp only [← Int.cast_ofNat_Int, pyOr_ofNat])
    (hadd.seq hinst.eta)

/-! ## every registered class's constructor is one of the translated functions

The data translator records, per registered class, whether its `__init__` is the family's own (`known`); the
source translator lists the classes it traced per family.  The registries regenerated on this run are covered: -/

theorem std_rows_traced :
    Gen.tables.stdOpcodes.all (fun e => !e.2.known ||
      (if e.2.hasparam then Gen.SrcCommand.stdParamKeys.contains (e.2.dt, e.2.cmdval)
       else Gen.SrcCommand.stdNoParamKeys.contains (e.2.dt, e.2.cmdval))) = true := by
  decide +kernel

theorem dev_rows_traced :
    Gen.tables.devOpcodes.all (fun e => !e.2.known || Gen.SrcCommand.devStdKeys.contains (0, e.2.opcode)) = true := by
  decide +kernel

theorem inst_rows_traced :
    Gen.tables.instOpcodes.all (fun e => !e.2.known || Gen.SrcCommand.devInstKeys.contains (0, e.2.opcode)) = true := by
  decide +kernel

end DaliVerif.Tie.Command
